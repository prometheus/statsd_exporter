import SE.Proofs.Reload
/-
C14 — Configuration reload is all-or-nothing, also under concurrent lookups.

Sequential part: a failing load leaves the mapper untouched; after a successful load the mapper
answers every lookup exactly like a mapper newly built from the new configuration — although the
code leaves `m.FSM` and `m.doRegex` stale when the new configuration has no glob rule.

Concurrent part, over the atomic-step abstraction (`GetMapping` runs under the read lock, the swap
under the write lock — the two lock regions are regenerated facts, `reload_swap_is_one_write_locked_region` and
`lookup_is_one_read_locked_region` in SE/Gen/TieSync.lean; RWMutex
semantics is trusted): every execution of reader threads and a reloader is an interleaving
(`Interleaving`) of their operations, i.e. some `List (Op V)`. The theorems below hold for *every*
operation list, hence for every interleaving: each lookup is answered from exactly one
configuration — the last one successfully loaded before it in the trace.
Not covered here: liveness ("no lookup is disabled forever").
-/
namespace SE.Props.C14
open SE
variable {V : Type}

/-- A failing load changes nothing: not the mapper object, not the cache. -/
theorem reload_error_keeps (m : CachedMapper V) (e : LoadErr) : m.reload (.error e) = m := rfl

/-- … so every later lookup (and reload) is answered as if the failing load had not happened. -/
theorem reload_error_invisible (rx : Rx) (m : CachedMapper V) (e : LoadErr) (ops : List (Op V)) :
    runCached rx m (.reload (.error e) :: ops) = runCached rx m ops := rfl

/-- the same on the cache-less mapper object, anywhere in a history -/
theorem reload_error_invisible_plain (rx : Rx) (st : MState V) (e : LoadErr) (pre post : List (Op V)) :
    runPlain rx st (pre ++ .reload (.error e) :: post) = runPlain rx st (pre ++ post) := by
  rw [runPlain_append, runPlain_append]; rfl

/-- All-or-nothing, from the raw configuration: whatever `InitFromYAMLString` is given, the cached
    mapper afterwards is either exactly the old one (load failed) or answers every history like a
    newly built mapper for the loaded configuration — there is no third outcome. -/
theorem reload_all_or_nothing [NumOps V] (rx : Rx) (rxOk : Bytes → Bool) (defBuckets : List V) (defQuantiles : List (V × V))
    (raw : RawConfig V) (m : CachedMapper V) :
    (∃ e, load rxOk defBuckets defQuantiles raw = .error e ∧
        m.reload (load rxOk defBuckets defQuantiles raw) = m) ∨
    (∃ n, load rxOk defBuckets defQuantiles raw = .ok n ∧
        ∀ ops, runCached rx (m.reload (load rxOk defBuckets defQuantiles raw)) ops
                 = runPlain rx (MState.fresh n) ops) :=
  reload_cases rx m _

/-- **Reload = fresh load.** After the assignments `InitFromYAMLString` makes under the write lock,
    the mapper object answers every lookup like a newly built mapper for `n`, whatever it was
    before. (After a regex-only reload `fsm` and `doRegex` are stale, but `doFSM = false` and they
    are not consulted; when `n` has glob rules both are refreshed.) -/
theorem reload_ok_eq_fresh (st : MState V) (n : Config V) (rx : Rx) (name : Bytes) (ty : Nat) :
    (st.swap n).lookup rx name ty = (MState.fresh n).lookup rx name ty :=
  swap_lookup_eq_fresh st n rx name ty

/-- A fresh mapper object answers exactly as the configuration-level `lookup` (SE/Model/Mapper.lean). -/
theorem fresh_lookup_eq (n : Config V) (rx : Rx) (name : Bytes) (ty : Nat) :
    (MState.fresh n).lookup rx name ty = lookup n rx name ty := by
  unfold MState.lookup MState.fresh lookup hasRegex; rfl

/-- Histories: after a successful reload the mapper answers every later history like a fresh one. -/
theorem reload_ok_history_eq_fresh (rx : Rx) (st : MState V) (n : Config V) (ops : List (Op V)) :
    runPlain rx (st.swap n) ops = runPlain rx (MState.fresh n) ops :=
  runPlain_congr rx ops _ _ (swap_lookup_eq_fresh st n rx)

/-- Cached version: after a successful reload a cached mapper (any cache kind, size, previous
    contents — sound or not) answers every later history like a newly built cached mapper for `n`
    with any other cache, and like a newly built cache-less one. -/
theorem reload_ok_cached_eq_fresh (rx : Rx) (m : CachedMapper V) (n : Config V) (kind size : Nat)
    (ops : List (Op V)) :
    runCached rx (m.reload (.ok n)) ops = runPlain rx (MState.fresh n) ops ∧
    runCached rx (m.reload (.ok n)) ops = runCached rx (CachedMapper.fresh n kind size) ops := by
  refine ⟨runCached_reload_ok rx m n ops, ?_⟩
  rw [runCached_reload_ok, runCached_eq_runPlain rx ops _ (cacheSound_of_empty rx _ rfl)]
  rfl

/-- **Each lookup is answered from exactly one configuration.** In any history (hence any
    interleaving of readers and reloader), the answer of a `get` is the answer of a newly built
    mapper for the last configuration successfully loaded before it (`expectedAfter`; the initial
    mapper if there was none). Failing loads and other lookups in between make no difference. -/
theorem lookup_answers_last_loaded (rx : Rx) (st : MState V) (pre post : List (Op V))
    (name : Bytes) (ty choice : Nat) :
    runPlain rx st (pre ++ .get name ty choice :: post) =
      runPlain rx st pre ++ expectedAfter rx st pre name ty :: runPlain rx (st.after pre) post := by
  rw [runPlain_append, runPlain, after_lookup]

/-- the same, read off by position: the answer with index "number of `get`s in `pre`" -/
theorem lookup_answer_at (rx : Rx) (st : MState V) (pre post : List (Op V)) (name : Bytes) (ty choice : Nat) :
    (runPlain rx st (pre ++ .get name ty choice :: post))[(runPlain rx st pre).length]? =
      some (expectedAfter rx st pre name ty) := by
  rw [lookup_answers_last_loaded, List.getElem?_append_right (Nat.le_refl _), Nat.sub_self]
  rfl

/-- … and with any mapping cache in front (sound at the start, e.g. empty). -/
theorem lookup_answer_at_cached (rx : Rx) (m : CachedMapper V) (hs : CacheSound rx m)
    (pre post : List (Op V)) (name : Bytes) (ty choice : Nat) :
    (runCached rx m (pre ++ .get name ty choice :: post))[(runCached rx m pre).length]? =
      some (expectedAfter rx m.st pre name ty) := by
  rw [runCached_eq_runPlain rx _ m hs, runCached_eq_runPlain rx _ m hs]
  exact lookup_answer_at rx m.st pre post name ty choice

/-- **Old or new, nothing in between.** If exactly one load succeeds in the whole trace (to `n`),
    then every lookup in the trace is answered either by the old mapper or by a newly built mapper
    for `n`: old iff the lookup comes before the successful reload in the trace. -/
theorem racing_lookup_old_or_new (rx : Rx) (st : MState V) (n : Config V) (trace pre post : List (Op V))
    (name : Bytes) (ty choice : Nat)
    (hone : okReloads trace = [n]) (hsplit : trace = pre ++ .get name ty choice :: post) :
    (okReloads pre = [] ∨ okReloads pre = [n]) ∧
    (runPlain rx st trace)[(runPlain rx st pre).length]? =
      some (if okReloads pre = [] then st.lookup rx name ty else (MState.fresh n).lookup rx name ty) := by
  subst hsplit
  rw [okReloads_append] at hone
  have hcases := (List.append_eq_singleton_iff.mp hone).imp And.left And.left
  refine ⟨hcases, ?_⟩
  rw [lookup_answer_at, expectedAfter, lastOk]
  -- either way `getLast?` and the `if` compute
  rcases hcases with h | h <;> rw [h] <;> rfl

/-- The interleaving form: reader threads and one reloader whose programs together contain exactly
    one successful load; whatever the schedule, every lookup is answered old or new as above. -/
theorem racing_lookup_old_or_new_interleaved (rx : Rx) (st : MState V) (n : Config V)
    (threads : List (List (Op V))) (trace pre post : List (Op V)) (name : Bytes) (ty choice : Nat)
    (hsched : Interleaving threads trace)
    (hone : (threads.map okReloads).flatten = [n])
    (hsplit : trace = pre ++ .get name ty choice :: post) :
    (runPlain rx st trace)[(runPlain rx st pre).length]? = some (st.lookup rx name ty) ∨
    (runPlain rx st trace)[(runPlain rx st pre).length]? = some ((MState.fresh n).lookup rx name ty) := by
  -- the schedule only permutes the successful loads, and there is one
  have h1 : okReloads trace = [n] := List.perm_singleton.mp (hone ▸ interleaving_okReloads threads trace hsched)
  rw [(racing_lookup_old_or_new rx st n trace pre post name ty choice h1 hsplit).2]
  by_cases h : okReloads pre = []
  · exact .inl (by rw [if_pos h])
  · exact .inr (by rw [if_neg h])

/-- Once a thread (indeed: anyone) has seen the new configuration, no later lookup sees the old one:
    a successful reload in `pre` stays in every longer prefix. -/
theorem new_then_never_old (pre mid : List (Op V)) (h : okReloads pre ≠ []) :
    okReloads (pre ++ mid) ≠ [] := by
  rw [okReloads_append]; intro h'; exact h (List.append_eq_nil_iff.mp h').1

/- Non-vacuity: the stale fields really occur. `cGlob` has one glob rule `a.*`, `cRegex` one regex
   rule; after `fresh cGlob` ⟶ `swap cRegex` the object still holds the old FSM and the old
   `doRegex = false`, although the new configuration has a regex rule — and still answers like
   `fresh cRegex` (by `reload_ok_eq_fresh`; here checked on a concrete lookup). -/
private def mkRule (mt : MatchTy) (pat : Pat) : Rule Nat :=
  { matchStr := [], name := [120], labels := [], honorLabels := false, observerType := .dflt,
    matchType := mt, help := [], action := .map, matchMetricType := none, ttl := 0, scale := none,
    buckets := [], hasHistOpts := false, quantiles := [], hasSummaryOpts := false, maxAge := 0,
    ageBuckets := 0, bufCap := 0, pat := pat, captureCount := countStars pat }
private def mkCfg (rules : List (Rule Nat)) (doFSM : Bool) : Config Nat :=
  { rules := rules, dObserverType := .dflt, dTtl := 0, dBuckets := [], dQuantiles := [], dMaxAge := 0,
    dAgeBuckets := 0, dBufCap := 0, orderingDisabled := false, doFSM := doFSM }
private def cGlob : Config Nat := mkCfg [mkRule .glob [[97], [42]]] true
private def cRegex : Config Nat := mkCfg [mkRule .regex []] false
private def rxAll : Rx := fun _ _ => some [([], some [])]

example : ((MState.fresh cGlob).swap cRegex).fsm.rules.length = 1 ∧      -- stale FSM (built from cGlob)
          ((MState.fresh cGlob).swap cRegex).doRegex = false ∧           -- stale doRegex
          hasRegex cRegex = true := by decide +kernel
example : ((MState.fresh cGlob).swap cRegex).lookup rxAll [97, 46, 98] 0 = some ⟨0, some [120], []⟩ ∧
          (MState.fresh cRegex).lookup rxAll [97, 46, 98] 0 = some ⟨0, some [120], []⟩ := by
  decide +kernel
-- an interleaving of a reader `[g1, g2]` and a reloader `[r]`: the schedule g1, r, g2
example (g1 g2 r : Op Nat) : Interleaving [[g1, g2], [r]] [g1, r, g2] :=
  .step [] g1 [g2] [[r]] _ (.step [[g2]] r [] [] _ (.step [] g2 [] [[]] _ (.done _ (by simp))))
example : okReloads [Op.get [97] 0 0, .reload (.error .badName), .reload (.ok cRegex), .get [97] 0 0]
            = [cRegex] := rfl

end SE.Props.C14
