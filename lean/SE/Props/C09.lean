import SE.Proofs.LineTags
/-
C09 — The four tagging syntaxes are equivalent; disabled ones are inert.

`lineToEvents` is the model of `LineToEvents`, `parseNameAndTags` of `parseNameAndTags`
(SE/Model/Line.lean). Specification side (SE/Spec/Line.lean): a tag list is a list of
`TagEntry` (`kv k v`, rendered `k<sep>v`, possibly with empty key or value; `bare x`, rendered
without separator, `bare []` being the entirely empty tag); `renderEq`/`renderColon` join the
entries with `,`; `specTags ts` inserts `(escape k, v)` left to right for the well-formed
entries and counts one tag error for every other entry.

Domain guards used throughout (exactly these, nothing else):
* `NameOk n`   : `n ≠ []` and `n` free of `: # , [ ]`;
* `TagsOk ts`  : every key and every separator-less entry is free of `, : | [ ] # =`, every
                 value is free of `, : | [ ] #`; `ts` has at least one entry and its last entry
                 is not the entirely empty tag `bare []` (the parser does not treat an empty
                 piece after the last comma as a tag, so such lists render ambiguously);
* the sample `s`: stated per theorem.
All theorems hold for every value type `V` with `NumOps V` and every oracle `pf`.
-/
namespace SE.Props.C09
open SE
variable {V : Type} [NumOps V]

/-- Librato form: `parseNameAndTags` returns the bare name and exactly the specified labels and
    tag-error count. Guards: Librato flag on, `NameOk n`, `TagsOk ts`. -/
theorem librato_name_eq_spec (fl : ParserFlags) (hfl : fl.librato = true) {n : Bytes}
    {ts : List TagEntry} (hn : NameOk n) (ht : TagsOk ts) :
    parseNameAndTags fl (n ++ cHash :: renderEq ts) = (n, (specTags ts).1, (specTags ts).2) :=
  marker_name_eq_spec fl cHash (by simp [hfl]) (by decide) (by decide) hn ht

/-- InfluxDB form. Guards: InfluxDB flag on, `NameOk n`, `TagsOk ts`. -/
theorem influx_name_eq_spec (fl : ParserFlags) (hfl : fl.influxdb = true) {n : Bytes}
    {ts : List TagEntry} (hn : NameOk n) (ht : TagsOk ts) :
    parseNameAndTags fl (n ++ cComma :: renderEq ts) = (n, (specTags ts).1, (specTags ts).2) :=
  marker_name_eq_spec fl cComma (by simp [hfl]) (by decide) (by decide) hn ht

/-- SignalFX form, for every split `n = pre ++ post` of the name (`pre` or `post` may be
    empty). Guards: SignalFX flag on, `pre` and `post` free of `[` and `]` (implied by
    `NameOk (pre ++ post)`), `TagsOk ts`. -/
theorem signalfx_name_eq_spec (fl : ParserFlags) (hfl : fl.signalfx = true) {pre post : Bytes}
    {ts : List TagEntry} (hn : NameOk (pre ++ post)) (ht : TagsOk ts) :
    parseNameAndTags fl (pre ++ cLBr :: (renderEq ts ++ cRBr :: post)) =
      (pre ++ post, (specTags ts).1, (specTags ts).2) := by
  have hl : cLBr ∉ pre := fun h => hn.lbr (by simp [h])
  have hr : cRBr ∉ pre := fun h => hn.rbr (by simp [h])
  rw [parseNameAndTags_signalfx fl hfl post hl hr
    (renderEq_free ht).2.2, parseNameTags_render ht]

/-- An untagged name is returned as it is, for every flag combination. Guard: `NameOk n`. -/
theorem plain_name (fl : ParserFlags) {n : Bytes} (hn : NameOk n) :
    parseNameAndTags fl n = (n, [], 0) :=
  parseNameAndTags_plain fl (fun _ => hn.hash) (fun _ => hn.comma) (fun _ => hn.lbr) (fun _ => hn.rbr)

/-- The three name-side syntaxes are interchangeable: with the Librato, InfluxDB and SignalFX
    flags on, the lines `n#tags:rest`, `n,tags:rest` and `pre[tags]post:rest` (`n = pre ++ post`)
    produce the *same parser output* — events, label map, error reasons and all four counters —
    for every remainder `rest` whatsoever (any number of samples, well-formed or not).
    Guards: the three flags on (DogStatsD flag arbitrary), `NameOk (pre ++ post)`, `TagsOk ts`. -/
theorem name_side_forms_agree (fl : ParserFlags) (pf : Pf V)
    (h1 : fl.librato = true) (h2 : fl.influxdb = true) (h3 : fl.signalfx = true)
    {pre post : Bytes} {ts : List TagEntry} (hn : NameOk (pre ++ post)) (ht : TagsOk ts) (rest : Bytes) :
    lineToEvents fl pf true (influxLine (pre ++ post) ts rest) =
      lineToEvents fl pf true (libratoLine (pre ++ post) ts rest) ∧
    lineToEvents fl pf true (signalfxLine pre post ts rest) =
      lineToEvents fl pf true (libratoLine (pre ++ post) ts rest) := by
  have hc3 : cColon ∉ pre ++ cLBr :: (renderEq ts ++ cRBr :: post) :=
    not_mem_append_cons (fun h => hn.colon (by simp [h])) (by decide)
      (not_mem_append_cons (renderEq_free ht).1 (by decide) (fun h => hn.colon (by simp [h])))
  simp only [influxLine, libratoLine, signalfxLine, mkLine]
  rw [lineToEvents_eq fl pf _ (by simp) (tagged_name_colon hn ht _ (by decide)) (influx_name_eq_spec fl h2 hn ht),
    lineToEvents_eq fl pf _ (by simp) (tagged_name_colon hn ht _ (by decide)) (librato_name_eq_spec fl h1 hn ht),
    lineToEvents_eq fl pf _ (by simp) hc3 (signalfx_name_eq_spec fl h3 hn ht)]
  exact ⟨rfl, rfl⟩

/-- Name-side tags versus the untagged line, for one sample `s`: the Librato line `n#tags:s`
    yields the same events (name, type, value), the same error reasons and the same sample count
    as the plain line `n:s`; its label map is `(specTags ts).1` (whenever `s` has at least the
    two `|`-fields needed to get past the `not_enough_parts` rejection — before that no label map
    is attached to anything), its tag-error count is `(specTags ts).2` (always: name-side tags are
    parsed before the sample is looked at), and `tagsReceived` moves iff the label map is
    non-empty and the sample passes the structural checks (`sampleAccepted`). The plain line has
    no labels, no tag errors and never moves `tagsReceived`.
    By `name_side_forms_agree` the same holds for the InfluxDB and SignalFX lines.
    Guards: Librato flag on, `NameOk n`, `TagsOk ts`, `s` free of `:` and not containing `|#`
    (in particular: every `s` free of `:` and `#`). -/
theorem librato_eq_plain_with_spec_labels (fl : ParserFlags) (pf : Pf V) (h1 : fl.librato = true)
    {n : Bytes} {ts : List TagEntry} (hn : NameOk n) (ht : TagsOk ts)
    (s : Bytes) (hc : cColon ∉ s) (hd : containsSub [cPipe, cHash] s = false) :
    let r := lineToEvents fl pf true (libratoLine n ts s)
    let p := lineToEvents fl pf true (mkLine n s)
    r.events = p.events ∧ r.errs = p.errs ∧ r.samples = p.samples ∧
    r.tagErrs = (specTags ts).2 ∧ p.tagErrs = 0 ∧ p.labels = [] ∧ p.tagsRecv = 0 ∧
    (cPipe ∈ s → r.labels = (specTags ts).1) ∧
    r.tagsRecv = (if (specTags ts).1.isEmpty || !sampleAccepted pf s then 0 else 1) := by
  intro r p
  have hr : r = afterName fl pf (n, (specTags ts).1, (specTags ts).2) s :=
    lineToEvents_eq fl pf s (by simp) (tagged_name_colon hn ht _ (by decide)) (librato_name_eq_spec fl h1 hn ht)
  rw [hr, show p = _ from lineToEvents_plain fl pf hn s]
  exact afterName_relabel_single fl pf n _ _ s hc hd

/-- Disabled name-side syntaxes are inert (general form): if the name part `e0` contains no
    marker of an *enabled* syntax — no `#` when Librato is on, no `,` when InfluxDB is on, no
    `[`/`]` when SignalFX is on — then whatever other marker bytes it contains stay part of the
    name: `parseNameAndTags` returns `e0` itself with no labels and no tag errors; every event of
    the line `e0:s` carries the whole `e0` as its name, and the line has no labels, no tag errors
    and does not move `tagsReceived`.
    Guards: `e0` non-empty, free of `:`; the marker conditions above; `s` free of `:` and not
    containing `|#`. -/
theorem disabled_inert_name (fl : ParserFlags) (pf : Pf V) (e0 s : Bytes)
    (h0 : e0 ≠ []) (hc0 : cColon ∉ e0)
    (hlib : fl.librato = true → cHash ∉ e0) (hinf : fl.influxdb = true → cComma ∉ e0)
    (hsfx : fl.signalfx = true → cLBr ∉ e0 ∧ cRBr ∉ e0)
    (hc : cColon ∉ s) (hd : containsSub [cPipe, cHash] s = false) :
    parseNameAndTags fl e0 = (e0, [], 0) ∧
    (let r := lineToEvents fl pf true (mkLine e0 s)
     (∀ ev ∈ r.events, ev.name = e0) ∧ r.labels = [] ∧ r.tagErrs = 0 ∧ r.tagsRecv = 0) := by
  have hp : parseNameAndTags fl e0 = (e0, [], 0) :=
    parseNameAndTags_plain fl hlib hinf (fun h => (hsfx h).1) (fun h => (hsfx h).2)
  refine ⟨hp, ?_⟩
  intro r
  have hr : r = afterName fl pf (e0, [], 0) s := lineToEvents_eq fl pf s h0 hc0 hp
  obtain ⟨_, _, _, _, a, b, c, _, _⟩ := afterName_relabel_single fl pf e0 [] 0 s hc hd
  rw [hr]
  exact ⟨runLine_names fl pf e0 [] 0 _, b, a, c⟩

/-- Librato disabled: in `n#x:s` the `#x` stays part of the metric name; no labels, no tag
    errors. Guards: Librato flag off; `n`, `x` free of `:`; if InfluxDB is on, `n` and `x` free
    of `,`; if SignalFX is on, `n` and `x` free of `[` and `]`; `s` free of `:`, without `|#`. -/
theorem disabled_inert_librato (fl : ParserFlags) (pf : Pf V) (hfl : fl.librato = false)
    (n x s : Bytes) (hcn : cColon ∉ n) (hcx : cColon ∉ x)
    (hinf : fl.influxdb = true → cComma ∉ n ∧ cComma ∉ x)
    (hsfx : fl.signalfx = true → (cLBr ∉ n ∧ cLBr ∉ x) ∧ (cRBr ∉ n ∧ cRBr ∉ x))
    (hc : cColon ∉ s) (hd : containsSub [cPipe, cHash] s = false) :
    parseNameAndTags fl (n ++ cHash :: x) = (n ++ cHash :: x, [], 0) ∧
    (let r := lineToEvents fl pf true (mkLine (n ++ cHash :: x) s)
     (∀ ev ∈ r.events, ev.name = n ++ cHash :: x) ∧ r.labels = [] ∧ r.tagErrs = 0 ∧ r.tagsRecv = 0) := by
  apply disabled_inert_name fl pf _ s (by simp) _ _ _ _ hc hd
  · exact not_mem_append_cons hcn (by decide) hcx
  · simp [hfl]
  · exact fun h => not_mem_append_cons (hinf h).1 (by decide) (hinf h).2
  · exact fun h => ⟨not_mem_append_cons (hsfx h).1.1 (by decide) (hsfx h).1.2,
      not_mem_append_cons (hsfx h).2.1 (by decide) (hsfx h).2.2⟩

/-- InfluxDB disabled: in `n,x:s` the `,x` stays part of the metric name. Guards: InfluxDB flag
    off; `n`, `x` free of `:`; if Librato is on, free of `#`; if SignalFX is on, free of `[`, `]`;
    `s` free of `:`, without `|#`. -/
theorem disabled_inert_influxdb (fl : ParserFlags) (pf : Pf V) (hfl : fl.influxdb = false)
    (n x s : Bytes) (hcn : cColon ∉ n) (hcx : cColon ∉ x)
    (hlib : fl.librato = true → cHash ∉ n ∧ cHash ∉ x)
    (hsfx : fl.signalfx = true → (cLBr ∉ n ∧ cLBr ∉ x) ∧ (cRBr ∉ n ∧ cRBr ∉ x))
    (hc : cColon ∉ s) (hd : containsSub [cPipe, cHash] s = false) :
    parseNameAndTags fl (n ++ cComma :: x) = (n ++ cComma :: x, [], 0) ∧
    (let r := lineToEvents fl pf true (mkLine (n ++ cComma :: x) s)
     (∀ ev ∈ r.events, ev.name = n ++ cComma :: x) ∧ r.labels = [] ∧ r.tagErrs = 0 ∧ r.tagsRecv = 0) := by
  apply disabled_inert_name fl pf _ s (by simp) _ _ _ _ hc hd
  · exact not_mem_append_cons hcn (by decide) hcx
  · exact fun h => not_mem_append_cons (hlib h).1 (by decide) (hlib h).2
  · simp [hfl]
  · exact fun h => ⟨not_mem_append_cons (hsfx h).1.1 (by decide) (hsfx h).1.2,
      not_mem_append_cons (hsfx h).2.1 (by decide) (hsfx h).2.2⟩

/-- SignalFX disabled: in `pre[x]post:s` the brackets and `x` stay part of the metric name.
    Guards: SignalFX flag off; `pre`, `x`, `post` free of `:`; if Librato is on, free of `#`; if
    InfluxDB is on, free of `,`; `s` free of `:`, without `|#`. -/
theorem disabled_inert_signalfx (fl : ParserFlags) (pf : Pf V) (hfl : fl.signalfx = false)
    (pre x post s : Bytes) (hcn : cColon ∉ pre) (hcx : cColon ∉ x) (hcp : cColon ∉ post)
    (hlib : fl.librato = true → cHash ∉ pre ∧ cHash ∉ x ∧ cHash ∉ post)
    (hinf : fl.influxdb = true → cComma ∉ pre ∧ cComma ∉ x ∧ cComma ∉ post)
    (hc : cColon ∉ s) (hd : containsSub [cPipe, cHash] s = false) :
    parseNameAndTags fl (pre ++ cLBr :: (x ++ cRBr :: post)) = (pre ++ cLBr :: (x ++ cRBr :: post), [], 0) ∧
    (let r := lineToEvents fl pf true (mkLine (pre ++ cLBr :: (x ++ cRBr :: post)) s)
     (∀ ev ∈ r.events, ev.name = pre ++ cLBr :: (x ++ cRBr :: post)) ∧
       r.labels = [] ∧ r.tagErrs = 0 ∧ r.tagsRecv = 0) := by
  apply disabled_inert_name fl pf _ s (by simp) _ _ _ _ hc hd
  · exact not_mem_append_cons hcn (by decide) (not_mem_append_cons hcx (by decide) hcp)
  · exact fun h => not_mem_append_cons (hlib h).1 (by decide) (not_mem_append_cons (hlib h).2.1 (by decide) (hlib h).2.2)
  · exact fun h => not_mem_append_cons (hinf h).1 (by decide) (not_mem_append_cons (hinf h).2.1 (by decide) (hinf h).2.2)
  · simp [hfl]

/-- DogStatsD disabled: nothing after the first colon contributes labels or tag errors — for
    every line whatsoever the tag-error count is the one of the name part and the label map is
    the one of the name part (or, when the line is rejected before the sample loop, empty with
    no events). Guards: DogStatsD flag off; name part `e0` non-empty and free of `:`. -/
theorem disabled_inert_dogstatsd (fl : ParserFlags) (pf : Pf V) (hfl : fl.dogstatsd = false)
    (e0 e1 : Bytes) (h0 : e0 ≠ []) (hc0 : cColon ∉ e0) :
    let r := lineToEvents fl pf true (mkLine e0 e1)
    r.tagErrs = (parseNameAndTags fl e0).2.2 ∧
    (r.labels = (parseNameAndTags fl e0).2.1 ∨ (r.labels = [] ∧ r.events = [])) := by
  intro r
  rcases hnt : parseNameAndTags fl e0 with ⟨m, L, E⟩
  have hr : r = afterName fl pf (m, L, E) e1 := lineToEvents_eq fl pf e1 h0 hc0 hnt
  rw [hr]
  exact runLine_dog_off fl pf hfl m L E _

/-- DogStatsD form versus the untagged line: `n:s|#k:v,…` yields the same events (name, type,
    value) as `n:s`; if `s` has at least two `|`-fields also the same error reasons and sample
    count; and when the sample is accepted (`sampleAccepted`: two to four `|`-fields, here two or
    three, value parses, no empty field) — i.e. when the parser gets as far as the tag section —
    its label map is `(specTags ts).1`, its tag-error count `(specTags ts).2`, and
    `tagsReceived` moves iff that map is non-empty. For a sample rejected earlier the section is
    never looked at (no labels, no tag errors) and both lines yield no event.
    Guards: DogStatsD flag on, `NameOk n`, `TagsOk ts`, `s` free of `:` and `#` with at most three
    `|`-fields (a fourth field plus the tag section would exceed the four-field limit, so such an
    `s` is accepted name-side but not in DogStatsD form). -/
theorem dogstatsd_eq_plain_with_spec_labels (fl : ParserFlags) (pf : Pf V) (hfl : fl.dogstatsd = true)
    {n : Bytes} {ts : List TagEntry} (hn : NameOk n) (ht : TagsOk ts)
    (s : Bytes) (hc : cColon ∉ s) (hh : cHash ∉ s) (hlen : (splitOn cPipe s).length ≤ 3) :
    let r := lineToEvents fl pf true (dogLine n ts s)
    let p := lineToEvents fl pf true (mkLine n s)
    r.events = p.events ∧ (cPipe ∈ s → r.errs = p.errs ∧ r.samples = p.samples) ∧
    (sampleAccepted pf s = true →
      r.labels = (specTags ts).1 ∧ r.tagErrs = (specTags ts).2 ∧
      r.tagsRecv = (if (specTags ts).1.isEmpty then 0 else 1)) ∧
    (sampleAccepted pf s = false → r.events = [] ∧ r.labels = [] ∧ r.tagErrs = 0 ∧ r.tagsRecv = 0) := by
  intro r p
  obtain ⟨a1, a2, a3, a4⟩ := afterName_dog_vs_plain fl pf n s (renderColon ts) hc hh
    (render_join_free cColon ht (by simp [tagDelims]) (by decide) (by decide)) hlen
  rw [parseDogStatsDTags_render fl hfl ht] at a3
  rw [show r = _ from lineToEvents_plain fl pf hn _, show p = _ from lineToEvents_plain fl pf hn s]
  exact ⟨a1, a2, a3, a4⟩

/-- All four syntaxes agree (the C09 headline): with all four flags on, for every name
    `n = pre ++ post`, tag list `ts` and sample `s`, the Librato, InfluxDB, SignalFX and
    DogStatsD lines yield the same events; the three name-side lines have identical parser
    output; and when the sample is accepted the DogStatsD line also has the same label map
    (`specTags ts`), the same tag-error count, the same error reasons, sample count and
    `tagsReceived` as the name-side lines.
    Guards: all four flags on, `NameOk (pre ++ post)`, `TagsOk ts`, `s` free of `:` and `#` with
    at most three `|`-fields. -/
theorem four_forms_agree (fl : ParserFlags) (pf : Pf V)
    (h0 : fl.dogstatsd = true) (h1 : fl.librato = true) (h2 : fl.influxdb = true) (h3 : fl.signalfx = true)
    {pre post : Bytes} {ts : List TagEntry} (hn : NameOk (pre ++ post)) (ht : TagsOk ts)
    (s : Bytes) (hc : cColon ∉ s) (hh : cHash ∉ s) (hlen : (splitOn cPipe s).length ≤ 3) :
    let lib := lineToEvents fl pf true (libratoLine (pre ++ post) ts s)
    let inf := lineToEvents fl pf true (influxLine (pre ++ post) ts s)
    let sfx := lineToEvents fl pf true (signalfxLine pre post ts s)
    let dog := lineToEvents fl pf true (dogLine (pre ++ post) ts s)
    inf = lib ∧ sfx = lib ∧ dog.events = lib.events ∧
    (sampleAccepted pf s = true →
      dog.labels = lib.labels ∧ lib.labels = (specTags ts).1 ∧
      dog.tagErrs = lib.tagErrs ∧ lib.tagErrs = (specTags ts).2 ∧
      dog.errs = lib.errs ∧ dog.samples = lib.samples ∧ dog.tagsRecv = lib.tagsRecv) := by
  intro lib inf sfx dog
  obtain ⟨e1, e2⟩ := name_side_forms_agree fl pf h1 h2 h3 hn ht s
  have hd : containsSub [cPipe, cHash] s = false := containsSub_eq_false (.tail _ (.head _)) hh
  obtain ⟨l1, l2, l3, l4, _, _, _, l8, l9⟩ := librato_eq_plain_with_spec_labels fl pf h1 hn ht s hc hd
  obtain ⟨d1, d2, d3, _⟩ := dogstatsd_eq_plain_with_spec_labels fl pf h0 hn ht s hc hh hlen
  refine ⟨e1, e2, d1.trans l1.symm, fun hacc => ?_⟩
  have hp : cPipe ∈ s := Decidable.by_contra fun h => by
    rw [sampleAccepted_nopipe pf h] at hacc
    cases hacc
  obtain ⟨d4, d5, d6⟩ := d3 hacc
  obtain ⟨d7, d8⟩ := d2 hp
  refine ⟨d4.trans (l8 hp).symm, l8 hp, d5.trans l4.symm, l4, d7.trans l2.symm, d8.trans l3.symm, ?_⟩
  rw [d6, l9, hacc, Bool.not_true, Bool.or_false]

/-- DogStatsD disabled: the `|#tags` section of `n:s|#tags` is ignored — same events as `n:s`
    (and, if `s` has at least two `|`-fields, same error reasons and sample count), no labels, no
    tag errors, `tagsReceived` untouched. `tags` is arbitrary (well-formed or not).
    Guards: DogStatsD flag off, `NameOk n`, `tags` free of `|`, `s` free of `:` and `#` with at
    most three `|`-fields. -/
theorem disabled_inert_dogstatsd_section (fl : ParserFlags) (pf : Pf V) (hfl : fl.dogstatsd = false)
    {n : Bytes} (hn : NameOk n) (s tags : Bytes) (ht : cPipe ∉ tags)
    (hc : cColon ∉ s) (hh : cHash ∉ s) (hlen : (splitOn cPipe s).length ≤ 3) :
    let r := lineToEvents fl pf true (mkLine n (s ++ cPipe :: cHash :: tags))
    let p := lineToEvents fl pf true (mkLine n s)
    r.events = p.events ∧ (cPipe ∈ s → r.errs = p.errs ∧ r.samples = p.samples) ∧
    r.labels = [] ∧ r.tagErrs = 0 ∧ r.tagsRecv = 0 := by
  intro r p
  obtain ⟨a1, a2, a3, a4⟩ := afterName_dog_vs_plain fl pf n s tags hc hh ht hlen
  have hoff : parseDogStatsDTags fl tags [] = ([], 0) := by simp [parseDogStatsDTags, hfl]
  rw [hoff] at a3
  rw [show r = _ from lineToEvents_plain fl pf hn _, show p = _ from lineToEvents_plain fl pf hn s]
  refine ⟨a1, a2, ?_⟩
  cases hacc : sampleAccepted pf s with
  | true => exact a3 hacc
  | false => exact (a4 hacc).2

/-- Mixed tagging styles are rejected as a whole: if name-side parsing produced at least one
    label and the part after the first colon contains `|#`, the line yields no events and
    exactly one `mixed_tagging_styles` error — independently of the DogStatsD flag (and of
    every other flag). Guards: name part `e0` non-empty and free of `:`. -/
theorem mixed_rejected (fl : ParserFlags) (pf : Pf V) (e0 e1 : Bytes)
    (h0 : e0 ≠ []) (hc0 : cColon ∉ e0)
    (hlab : (parseNameAndTags fl e0).2.1 ≠ [])
    (hdog : containsSub [cPipe, cHash] e1 = true) :
    let r := lineToEvents fl pf true (mkLine e0 e1)
    r.events = [] ∧ r.errs = [.mixedTaggingStyles] ∧ r.samples = 0 ∧ r.labels = [] := by
  intro r
  have hm : lineSamples (!(parseNameAndTags fl e0).2.1.isEmpty) e1 = .error .mixedTaggingStyles :=
    lineSamples_mixed (by rw [hdog, List.isEmpty_eq_false_iff.mpr hlab]; rfl)
  rw [show r = _ from lineToEvents_of_samples fl pf h0 hc0 rfl hm]
  exact ⟨rfl, rfl, rfl, rfl⟩

/-! ### Non-vacuity: the hypotheses are satisfiable and the conclusions non-trivial
    (toy number type `intOps` = integers, toy oracle `toyPf` accepting "1", "2", "5";
    SE/Spec/Line.lean) -/
section Examples
local instance : NumOps Int := intOps
private def allOn : ParserFlags := ⟨true, true, true, true⟩
/-- tags `a=1`, ``, `=x`, `zz`, `b-c=2`, `a=3`: three well-formed entries (one key needs escaping,
    one key repeated) and three malformed ones -/
private def exTs : List TagEntry := [.kv [97] [49], .bare [], .kv [] [120], .bare [122, 122], .kv [98, 45, 99] [50], .kv [97] [51]]

example : NameOk [109, 46, 110] := ⟨by decide, by decide⟩
example : TagsOk exTs := ⟨by decide, ⟨exTs.dropLast, .kv [97] [51], by decide, by decide⟩⟩
example : renderEq exTs = [97, 61, 49, 44, 44, 61, 120, 44, 122, 122, 44, 98, 45, 99, 61, 50, 44, 97, 61, 51] := by decide +kernel
example : renderColon exTs = [97, 58, 49, 44, 44, 58, 120, 44, 122, 122, 44, 98, 45, 99, 58, 50, 44, 97, 58, 51] := by decide +kernel
example : specTags exTs = ([([97], [51]), ([98, 95, 99], [50])], 3) := by decide +kernel
-- the four renderings, name "m.n" split as "m." ++ "n", sample "2|c"
example : libratoLine [109, 46, 110] exTs [50, 124, 99] = [109, 46, 110, 35, 97, 61, 49, 44, 44, 61, 120, 44, 122, 122, 44, 98, 45, 99, 61, 50, 44, 97, 61, 51, 58, 50, 124, 99] := by decide +kernel
example : influxLine [109, 46, 110] exTs [50, 124, 99] = [109, 46, 110, 44, 97, 61, 49, 44, 44, 61, 120, 44, 122, 122, 44, 98, 45, 99, 61, 50, 44, 97, 61, 51, 58, 50, 124, 99] := by decide +kernel
example : signalfxLine [109, 46] [110] exTs [50, 124, 99] = [109, 46, 91, 97, 61, 49, 44, 44, 61, 120, 44, 122, 122, 44, 98, 45, 99, 61, 50, 44, 97, 61, 51, 93, 110, 58, 50, 124, 99] := by decide +kernel
example : dogLine [109, 46, 110] exTs [50, 124, 99] = [109, 46, 110, 58, 50, 124, 99, 124, 35, 97, 58, 49, 44, 44, 58, 120, 44, 122, 122, 44, 98, 45, 99, 58, 50, 44, 97, 58, 51] := by decide +kernel
example : sampleAccepted toyPf [50, 124, 99] = true := by decide +kernel
example : let r := lineToEvents allOn toyPf true [109, 46, 91, 97, 61, 49, 44, 44, 61, 120, 44, 122, 122, 44, 98, 45, 99, 61, 50, 44, 97, 61, 51, 93, 110, 58, 50, 124, 99]
    r.events.map (·.name) = [[109, 46, 110]] ∧ r.labels = (specTags exTs).1 ∧ r.tagErrs = 3 ∧ r.tagsRecv = 1 := by decide +kernel
example : let r := lineToEvents allOn toyPf true [109, 46, 110, 58, 50, 124, 99, 124, 35, 97, 58, 49, 44, 44, 58, 120, 44, 122, 122, 44, 98, 45, 99, 58, 50, 44, 97, 58, 51]
    r.events.map (·.name) = [[109, 46, 110]] ∧ r.labels = (specTags exTs).1 ∧ r.tagErrs = 3 ∧ r.tagsRecv = 1 := by decide +kernel
-- a sample rejected early: name-side tag errors are counted, the DogStatsD section is never looked at
example : (lineToEvents allOn toyPf true [109, 46, 110, 35, 97, 61, 49, 44, 44, 61, 120, 44, 122, 122, 44, 98, 45, 99, 61, 50, 44, 97, 61, 51, 58, 120, 124, 99]).tagErrs = 3 ∧
    (lineToEvents allOn toyPf true [109, 46, 110, 58, 120, 124, 99, 124, 35, 97, 58, 49, 44, 44, 58, 120, 44, 122, 122, 44, 98, 45, 99, 58, 50, 44, 97, 58, 51]).tagErrs = 0 := by decide +kernel
-- four fields: accepted name-side, one field too many in DogStatsD form (the `≤ 3 fields` guard)
example : (lineToEvents allOn toyPf true [109, 35, 97, 61, 49, 58, 49, 124, 99, 124, 64, 49, 124, 64, 49]).events.length = 1 ∧
    (lineToEvents allOn toyPf true [109, 58, 49, 124, 99, 124, 64, 49, 124, 64, 49, 124, 35, 97, 58, 49]).events.length = 0 := by decide +kernel
-- a trailing entirely-empty tag is not a tag at all (the `last ≠ bare []` guard): "m#a=1,:1|c"
example : (lineToEvents allOn toyPf true [109, 35, 97, 61, 49, 44, 58, 49, 124, 99]).tagErrs = 0 ∧
    (lineToEvents allOn toyPf true [109, 35, 44, 97, 61, 49, 58, 49, 124, 99]).tagErrs = 1 := by decide +kernel
-- Librato off: "#a=1" stays in the name
example : let r := lineToEvents ⟨true, true, false, true⟩ toyPf true [109, 35, 97, 61, 49, 58, 49, 124, 99]
    r.events.map (·.name) = [[109, 35, 97, 61, 49]] ∧ r.labels = [] := by decide +kernel
-- DogStatsD off: the section is ignored
example : let r := lineToEvents ⟨false, true, true, true⟩ toyPf true [109, 58, 49, 124, 99, 124, 35, 97, 58, 49]
    r.events.length = 1 ∧ r.labels = [] ∧ r.tagErrs = 0 := by decide +kernel
-- mixed styles, also with DogStatsD off
example : let r := lineToEvents ⟨false, true, true, true⟩ toyPf true [109, 35, 97, 61, 49, 58, 49, 124, 99, 124, 35, 98, 58, 50]
    r.events.length = 0 ∧ r.errs = [.mixedTaggingStyles] := by decide +kernel
example : (parseNameAndTags allOn [109, 35, 97, 61, 49]).2.1 ≠ [] ∧ containsSub [cPipe, cHash] [49, 124, 99, 124, 35, 98, 58, 50] = true := by decide +kernel
end Examples

end SE.Props.C09
