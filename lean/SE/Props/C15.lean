import SE.Proofs.Escape
/-
C15 — Name escaping always yields a legal, stable Prometheus name.
Every theorem quantifies over *all* byte strings (Go strings are byte strings, so this
includes invalid UTF-8). `escape` is the model of `mapper.EscapeMetricName`
(SE/Model/Escape.lean); `none` would be a run-time panic of the slice expression.
-/
namespace SE.Props.C15
open SE

/-- Refinement: the loop computes exactly the rune-by-rune specification. -/
theorem escape_eq_spec (inp : Bytes) : escape inp = some (specEscape inp) :=
  escapeToks_eq_spec inp (tokens inp) (flat_tokens inp)

/-- Escaping never fails (no slice-bounds panic), for every input. -/
theorem escape_total (inp : Bytes) : (escape inp).isSome = true := by
  rw [escape_eq_spec]; rfl

/-- For every non-empty input the result matches `[a-zA-Z_][a-zA-Z0-9_]*`. -/
theorem escape_legal (inp : Bytes) (h : inp ≠ []) : ∃ out, escape inp = some out ∧ legalName out = true :=
  ⟨specEscape inp, escape_eq_spec inp, legal_specEscape inp h⟩

/-- The input's ASCII letters and digits survive, in order, and nothing else that is a letter or digit appears. -/
theorem escape_keeps_alnum (inp : Bytes) :
    ∃ out, escape inp = some out ∧ out.filter isAlnum = inp.filter isAlnum :=
  ⟨specEscape inp, escape_eq_spec inp, specEscape_filter_alnum inp⟩

/-- A leading underscore is gained exactly when the input starts with a digit; the remainder is the
    rune-wise image (`specBody`) of the input. -/
theorem escape_leading_underscore (b0 : UInt8) (rest : Bytes) :
    escape (b0 :: rest) =
      some ((if isDigit b0 then [us] else []) ++ specBody false (tokens (b0 :: rest))) := by
  rw [escape_eq_spec, specEscape_cons]

/-- Identity on names that are already legal. -/
theorem escape_id_on_legal (inp : Bytes) (h : legalName inp = true) : escape inp = some inp := by
  rw [escape_eq_spec, specEscape_legal_id inp h]

/-- Idempotent. -/
theorem escape_idempotent (inp out : Bytes) (h : escape inp = some out) : escape out = some out := by
  cases inp with
  | nil => cases h; rfl
  | cons b rest =>
    obtain ⟨out', h', hl⟩ := escape_legal (b :: rest) (List.cons_ne_nil _ _)
    rw [h] at h'; cases h'
    exact escape_id_on_legal out hl

/- Non-vacuity / sanity: concrete inputs, including the two that panicked or lost data before the fix. -/
example : escape [0xff, 97, 45] = some [95, 97, 95] := by decide +kernel          -- "\xffa-" ↦ "_a_"
example : escape [0xff, 97, 98] = some [95, 97, 98] := by decide +kernel          -- "\xffab" ↦ "_ab"
example : escape [49, 97, 45, 45, 98, 46] = some [95, 49, 97, 95, 98, 95] := by decide +kernel  -- "1a--b." ↦ "_1a_b_"
example : legalName [95, 49, 97] = true ∧ escape [95, 49, 97] = some [95, 49, 97] := by decide +kernel

end SE.Props.C15
