import SE.Proofs.Relay
/-
C17 — The relay forwards every line once, intact, in packets within the limit.
With relaying enabled, every non-empty received line that fits the configured packet length is
forwarded to the target exactly once, byte-for-byte and newline-terminated, in arrival order; no
forwarded datagram exceeds the packet length or splits a line; buffered lines are sent at the
latest on the next one-second tick; over-long lines are counted and skipped. A failing send to the
target never blocks or stops metric ingestion.

Model (SE/Model/Relay.lean): `relayStep s label` is one atomic action of pkg/relay/relay.go:
`.line l` = a listener goroutine's `RelayLine(l)` (not enabled while the 100-slot channel is full
and `l` would be enqueued), `.deq ok` = the sender goroutine's `case b := <-r.bufferChannel`,
`.tick ok` = its `case <-relayInterval.C`; `ok` is the outcome of the UDP send that step may make
(an oracle: `true` = the socket accepted the datagram, `false` = `WriteToUDP` returned an error).
`relayRun s sched` runs a *schedule*, a list of labels chosen by Go's runtime and by `select`.
Every theorem below quantifies over every packet length `n`, EVERY schedule `sched` for which the
run from the initial state `relayInit n` is defined (`relayRun (relayInit n) sched = some s`: every
step of it was enabled) — i.e. over every reachable state — and every send-outcome oracle.
(Go computes `packetLength-1` in `uint`; for `packetLength = 0` that wraps around, the model's
`Nat` subtraction does not: the model corresponds to the code for `n ≥ 1`. No theorem needs the
hypothesis, for `n = 0` the model simply accepts no line.)

Vocabulary (SE/Spec/Relay.lean): `linesOf sched` = the lines handed to `RelayLine`, in arrival
order; `lineFits n l` = `l` is non-empty and `len(l) ≤ n-1`; `lineLong n l` = non-empty and
`len(l) > n-1`; `terminate l` = `l` with a newline appended unless it already ends in one;
`acceptedOf n sched` = for the `.line l` labels in order, `relayAccept n l` when `some` (the lines
the relay enqueued, in their forwarded form); `longOf n sched` = number of over-long lines;
`AllOk sched` = every send of the schedule succeeds. State: `s.sent` = the datagrams the socket
accepted, in order; `s.lost` = the datagrams whose send failed; `s.buffer` = the sender's buffer;
`s.chan` = the channel, oldest first.
-/
namespace SE.Props.C17
open SE

/-- What is forwarded, byte for byte: the lines the relay enqueues are exactly the non-empty lines
    of at most `n-1` bytes, in arrival order, each unchanged except that a newline is appended when
    the line does not already end in one; each enqueued line is non-empty, ends in a newline and
    has at most `n` bytes. -/
theorem accepted_lines_intact (n : Nat) (sched : List RelayLabel) :
    acceptedOf n sched = ((linesOf sched).filter (lineFits n)).map terminate ∧
    (∀ l, terminate l = l ∨ (terminate l = l ++ [newline] ∧ l.getLast? ≠ some newline)) ∧
    ∀ b, b ∈ acceptedOf n sched → b ≠ [] ∧ b.getLast? = some newline ∧ b.length ≤ n := by
  refine ⟨acceptedOf_eq n sched, ?_, ?_⟩
  · intro l
    unfold terminate
    by_cases h : l.getLast? = some newline
    · exact Or.inl (if_pos (beq_iff_eq.2 h))
    · exact Or.inr ⟨if_neg (mt beq_iff_eq.1 h), h⟩
  · intro b hb
    have := acceptedOf_good hb
    exact ⟨this.ne, this.nl, this.le⟩

/-- Conservation of lines (the key invariant; any send outcomes). In every reachable state the
    accepted lines, in arrival order, are partitioned into consecutive blocks: first the blocks
    `blocks` that were handed to the socket as one datagram each (tagged with the outcome of that
    send), then the lines `pending` in the sender's buffer, then the channel. `sent` is exactly the
    datagrams of the blocks whose send succeeded, `lost` those whose send failed, both in order. So
    no line is duplicated, reordered, split over two datagrams or dropped anywhere else than in a
    datagram whose send failed; every datagram is non-empty. -/
theorem conservation (n : Nat) (sched : List RelayLabel) (s : RelaySt)
    (h : relayRun (relayInit n) sched = some s) :
    ∃ (blocks : List (List Bytes × Bool)) (pending : List Bytes),
      acceptedOf n sched = (blocks.map (·.1)).flatten ++ pending ++ s.chan ∧
      s.buffer = pending.flatten ∧
      s.sent = (blocks.filter (·.2)).map (·.1.flatten) ∧
      s.lost = (blocks.filter (!·.2)).map (·.1.flatten) ∧
      ∀ g, g ∈ blocks → g.1.flatten ≠ [] := by
  obtain ⟨blocks, pending, hs⟩ := (RelayInv.reachable n sched s h).shape
  exact ⟨blocks, pending, hs.cons, hs.buf, hs.sent, hs.lost, hs.ne⟩

/-- Exactly once, in order (all sends succeed). In every state reachable by a schedule without
    failed sends, nothing is lost, and the accepted lines in arrival order are exactly: the lines
    of the forwarded datagrams (`sent = blocks.map flatten`, in order), then the lines in the
    buffer, then the channel. So every accepted line is forwarded at most once, none is skipped or
    overtaken, and what is not yet forwarded is still waiting in the buffer or the channel. -/
theorem exactly_once_in_order (n : Nat) (sched : List RelayLabel) (s : RelaySt)
    (h : relayRun (relayInit n) sched = some s) (hok : AllOk sched) :
    s.lost = [] ∧
    ∃ (blocks : List (List Bytes)) (pending : List Bytes),
      acceptedOf n sched = blocks.flatten ++ pending ++ s.chan ∧
      s.sent = blocks.map List.flatten ∧ s.buffer = pending.flatten := by
  have hinv := RelayInv.reachable n sched s h
  have hl := hinv.lostOk hok
  obtain ⟨blocks, pending, hs⟩ := hinv.shape
  exact ⟨hl, blocks.map (·.1), pending, hs.cons, hs.sent_of_lost_nil hl, hs.buf⟩

/-- The same on the byte level: without failed sends, the concatenation of the forwarded datagrams,
    followed by the buffer and the channel contents, is byte for byte the concatenation of the
    accepted lines in arrival order. -/
theorem datagrams_concat (n : Nat) (sched : List RelayLabel) (s : RelaySt)
    (h : relayRun (relayInit n) sched = some s) (hok : AllOk sched) :
    s.sent.flatten ++ s.buffer ++ s.chan.flatten = (acceptedOf n sched).flatten :=
  relay_concat h hok

/-- Completeness at quiescence: without failed sends, once the channel and the buffer are empty
    (e.g. after the sender has drained the channel and the next tick has fired, see
    `can_always_drain`), the forwarded datagrams are exactly the accepted lines, each once, in
    arrival order. -/
theorem all_forwarded_at_quiescence (n : Nat) (sched : List RelayLabel) (s : RelaySt)
    (h : relayRun (relayInit n) sched = some s) (hok : AllOk sched)
    (hc : s.chan = []) (hb : s.buffer = []) :
    s.sent.flatten = (acceptedOf n sched).flatten := by
  simpa [hc, hb] using datagrams_concat n sched s h hok

/-- Datagrams within the limit: in every reachable state every datagram handed to the socket
    (accepted or failed) has at most `n` bytes, and so have the buffer and every queued line. -/
theorem datagram_le_packetLength (n : Nat) (sched : List RelayLabel) (s : RelaySt)
    (h : relayRun (relayInit n) sched = some s) :
    (∀ d, d ∈ s.sent ++ s.lost → d.length ≤ n) ∧ s.buffer.length ≤ n ∧
      ∀ b, b ∈ s.chan → b.length ≤ n :=
  have hb := (RelayInv.reachable n sched s h).bound
  ⟨List.forall_mem_append.2 ⟨hb.sentLe, hb.lostLe⟩, hb.bufLe, fun b hbm => (hb.chanGood b hbm).le⟩

/-- No datagram splits a line: in every reachable state every datagram handed to the socket is
    non-empty and is the concatenation of a contiguous block of whole accepted lines
    (`accepted = before ++ block ++ after`), and the buffer is the concatenation of the contiguous
    block of accepted lines that sits directly in front of the channel contents. -/
theorem datagram_is_whole_lines (n : Nat) (sched : List RelayLabel) (s : RelaySt)
    (h : relayRun (relayInit n) sched = some s) :
    (∀ d, d ∈ s.sent ++ s.lost → d ≠ [] ∧ ∃ before block after,
        acceptedOf n sched = before ++ block ++ after ∧ d = block.flatten) ∧
    ∃ before block, acceptedOf n sched = before ++ block ++ s.chan ∧ s.buffer = block.flatten := by
  obtain ⟨blocks, pending, hs⟩ := (RelayInv.reachable n sched s h).shape
  refine ⟨?_, _, pending, hs.cons, hs.buf⟩
  intro d hd
  obtain ⟨g, hg, rfl⟩ := hs.mem_dgram hd
  refine ⟨hs.ne g hg, ?_⟩
  obtain ⟨b1, b2, hsplit⟩ := List.append_of_mem hg
  refine ⟨(b1.map (·.1)).flatten, g.1, (b2.map (·.1)).flatten ++ pending ++ s.chan, ?_, rfl⟩
  rw [hs.cons, hsplit]
  simp

/-- The channel never holds more than its 100 slots, and every queued line is well-formed. -/
theorem chan_bounded (n : Nat) (sched : List RelayLabel) (s : RelaySt)
    (h : relayRun (relayInit n) sched = some s) :
    s.chan.length ≤ 100 ∧ ∀ b, b ∈ s.chan → b ≠ [] ∧ b.getLast? = some newline :=
  have hb := (RelayInv.reachable n sched s h).bound
  ⟨hb.chanCap, fun b hbm => ⟨(hb.chanGood b hbm).ne, (hb.chanGood b hbm).nl⟩⟩

/-- A tick flushes the buffer (any state, either send outcome): a tick is always enabled; after it
    the buffer is empty and the channel untouched; a non-empty buffer has been handed to the socket
    as one datagram — it is the new last element of `sent` (send succeeded) or of `lost` (send
    failed) and is counted; an empty buffer sends nothing and counts nothing. So a line that the
    sender has taken from the channel is sent at the latest on the next tick. -/
theorem tick_flushes_buffer (s : RelaySt) (ok : Bool) :
    ∃ s', relayStep s (.tick ok) = some s' ∧ s'.buffer = [] ∧ s'.chan = s.chan ∧
      (s.buffer = [] → s'.sent = s.sent ∧ s'.lost = s.lost ∧ s'.packets = s.packets) ∧
      (s.buffer ≠ [] → ok = true →
        s'.sent = s.sent ++ [s.buffer] ∧ s'.lost = s.lost ∧ s'.packets = s.packets + 1) ∧
      (s.buffer ≠ [] → ok = false →
        s'.sent = s.sent ∧ s'.lost = s.lost ++ [s.buffer] ∧ s'.packets = s.packets + 1) := by
  refine ⟨_, rfl, rfl, ?_⟩
  rw [sendPacket_eq]
  by_cases hb : s.buffer = []
  · simp [hb]
  · cases ok <;> simp [hb]

/-- … on the level of whole runs: right after a tick of a run without failed sends, the buffer is
    empty and every accepted line that is no longer in the channel has been forwarded — the
    forwarded datagrams followed by the channel contents are the accepted lines, byte for byte. -/
theorem tick_forwards_everything_dequeued (n : Nat) (sched : List RelayLabel) (s : RelaySt)
    (h : relayRun (relayInit n) (sched ++ [.tick true]) = some s) (hok : AllOk sched) :
    s.buffer = [] ∧ s.sent.flatten ++ s.chan.flatten = (acceptedOf n sched).flatten := by
  have hcat := datagrams_concat n _ s h (allOk_snoc.2 ⟨hok, rfl⟩)
  obtain ⟨s0, _, h1⟩ := relayRun_append.1 h
  cases h1
  rw [acceptedOf_snoc] at hcat
  exact ⟨rfl, by simpa [acceptedBy] using hcat⟩

/-- The sender can always catch up: from any state, for any send outcomes (`oks`, `ok`), taking
    every queued line from the channel and then one tick is enabled step by step and leaves the
    channel and the buffer empty — every line that was queued has been handed to the socket. -/
theorem can_always_drain (s : RelaySt) (oks : List Bool) (ok : Bool) (hlen : oks.length = s.chan.length) :
    ∃ s', relayRun s (oks.map .deq ++ [.tick ok]) = some s' ∧ s'.chan = [] ∧ s'.buffer = [] := by
  induction oks generalizing s with
  | nil => exact ⟨_, rfl, (sendPacket_chan s ok).trans (List.length_eq_zero_iff.1 hlen.symm), rfl⟩
  | cons o os ih =>
    obtain ⟨b, rest, hch⟩ := List.exists_cons_of_length_eq_add_one hlen.symm
    obtain ⟨s1, h1, hc1⟩ := exists_deq s o hch
    obtain ⟨s', hr, hq⟩ := ih s1 (by rw [hc1]; simpa [hch] using hlen)
    exact ⟨s', relayRun_cons.2 ⟨s1, h1, hr⟩, hq⟩

/-- Over-long lines are counted and skipped, accepted lines are counted: in every reachable state
    `longLines` is the number of over-long lines received and `relayed` the number of lines
    enqueued. -/
theorem long_lines_counted_and_skipped (n : Nat) (sched : List RelayLabel) (s : RelaySt)
    (h : relayRun (relayInit n) sched = some s) :
    s.longLines = longOf n sched ∧ s.relayed = (acceptedOf n sched).length :=
  have hc := (RelayInv.reachable n sched s h).count
  ⟨hc.long, hc.relayed⟩

/-- … and a line that is not enqueued (empty or over-long) is always enabled and changes nothing
    in the state except the over-long counter, which goes up by one iff the line is non-empty. -/
theorem skipped_line_changes_nothing_else (s : RelaySt) (l : Bytes) (hskip : relayAccept s.pktLen l = none) :
    relayStep s (.line l) =
      some { s with longLines := s.longLines + (if l.isEmpty then 0 else 1) } := by
  unfold relayAccept at hskip
  simp only [relayStep]
  by_cases h1 : l.isEmpty = true
  · simp [h1]
  · by_cases h2 : l.length > s.pktLen - 1
    · simp [h1, h2]
    · simp [h1, h2] at hskip

/-- The packet counter counts every datagram handed to the socket, failed sends included (the Go
    code increments it after `WriteToUDP` whatever the result). -/
theorem packets_counted (n : Nat) (sched : List RelayLabel) (s : RelaySt)
    (h : relayRun (relayInit n) sched = some s) :
    s.packets = s.sent.length + s.lost.length :=
  (RelayInv.reachable n sched s h).bound.pkts

/-- A failing send never blocks or stops ingestion. In EVERY reachable state, whatever the outcomes
    of the past sends were: the sender's tick case is enabled for both send outcomes; if the
    channel is non-empty its receive case is enabled for both send outcomes (so the sender
    goroutine is never stuck and never gone); `RelayLine(l)` is enabled whenever the channel has a
    free slot or `l` is not enqueued at all; and for every line `l`, `RelayLine(l)` is enabled now
    or after one receive of the sender, whatever the outcome of the send in that step
    (`pre` has at most one step). -/
theorem send_failure_never_blocks_ingest (n : Nat) (sched : List RelayLabel) (s : RelaySt)
    (h : relayRun (relayInit n) sched = some s) :
    (∀ ok, (relayStep s (.tick ok)).isSome = true) ∧
    (s.chan ≠ [] → ∀ ok, (relayStep s (.deq ok)).isSome = true) ∧
    (∀ l, s.chan.length < 100 ∨ relayAccept n l = none → (relayStep s (.line l)).isSome = true) ∧
    (∀ l ok, (relayRun s [.line l]).isSome = true ∨ (relayRun s [.deq ok, .line l]).isSome = true) ∧
    (∀ l, ∃ pre, pre.length ≤ 1 ∧ (relayRun s (pre ++ [.line l])).isSome = true) := by
  have hb := (RelayInv.reachable n sched s h).bound
  have hdeq : s.chan ≠ [] → ∀ ok, ∃ s1, RelayStep s (.deq ok) s1 ∧ s1.chan.length < relayChanCap := by
    intro hne ok
    obtain ⟨b, rest, hch⟩ := List.exists_cons_of_ne_nil hne
    obtain ⟨s1, h1, hc1⟩ := exists_deq s ok hch
    have hcap := hb.chanCap
    rw [hch] at hcap
    exact ⟨s1, h1, hc1 ▸ hcap⟩
  -- the last conjunct is the one before it with `ok := true`: `and_iff_left_of_imp` takes that implication, then the
  -- fourth conjunct alone
  refine ⟨fun ok => rfl, fun hne ok => ?_, fun l hl => (RelayStep.line l (hb.pkt ▸ hl)).isSome,
    (and_iff_left_of_imp fun h4 l => ?_).2 fun l ok => ?_⟩
  · obtain ⟨s1, h1, _⟩ := hdeq hne ok
    exact h1.isSome
  · rcases h4 l true with h1 | h1
    · exact ⟨[], Nat.zero_le 1, h1⟩
    · exact ⟨[.deq true], Nat.le_refl 1, h1⟩
  · -- `RelayLine(l)` runs at once if the channel has a free slot, else after one receive
    by_cases hlt : s.chan.length < relayChanCap
    · exact .inl (Option.isSome_of_eq_some (relayRun_cons.2 ⟨_, .line l (.inl hlt), rfl⟩))
    · obtain ⟨s1, h1, hlt1⟩ := hdeq (fun hnil => hlt (by rw [hnil]; decide)) ok
      exact .inr (Option.isSome_of_eq_some (relayRun_cons.2 ⟨s1, h1, relayRun_cons.2 ⟨_, .line l (.inl hlt1), rfl⟩⟩))

/-! ### Contrast: the original sender returned on the first failed send

Before the repair, `relayOutput` executed `return` when `sendPacket` failed (in both `select`
cases), i.e. the sender goroutine ended. Variant model: the relay state plus a flag `dead`; the
sender's steps are those of the repaired model while it is alive, a failed send (`lost` grows) sets
`dead`, and a dead sender has no enabled step. `RelayLine` is unchanged. -/

structure OldSt where
  st : RelaySt
  dead : Bool := false

def relayStepOld (z : OldSt) : RelayLabel → Option OldSt
  | .line l => (relayStep z.st (.line l)).map fun s' => { z with st := s' }
  | lab =>
    if z.dead then none
    else (relayStep z.st lab).map fun s' => ⟨s', s'.lost.length != z.st.lost.length⟩

def relayRunOld (z : OldSt) : List RelayLabel → Option OldSt
  | [] => some z
  | l :: ls => (relayStepOld z l).bind (relayRunOld · ls)

/-- The repaired defect: in the original code, once the sender is dead and the channel is full,
    every continuation leaves the sender dead and the channel full, the sender's steps are never
    enabled again, and no line that would be enqueued is ever accepted again — `RelayLine` blocks
    its listener goroutine forever. (`send_failure_never_blocks_ingest` shows that the repaired
    code has no such state.) -/
theorem old_sender_death_blocks_ingest_forever (z : OldSt) (hd : z.dead = true)
    (hfull : z.st.chan.length = 100) (cont : List RelayLabel) (z' : OldSt)
    (h : relayRunOld z cont = some z') :
    z'.dead = true ∧ z'.st.chan = z.st.chan ∧ z'.st.pktLen = z.st.pktLen ∧
    (∀ ok, relayStepOld z' (.deq ok) = none) ∧ (∀ ok, relayStepOld z' (.tick ok) = none) ∧
    ∀ l, relayAccept z.st.pktLen l ≠ none → relayStepOld z' (.line l) = none := by
  -- on a full channel `RelayLine` is enabled only for a line that is not enqueued, and such a line
  -- leaves the sender and the channel as they are
  have skip : ∀ {z z1 : OldSt} {l}, z.st.chan.length = 100 → relayStepOld z (.line l) = some z1 →
      relayAccept z.st.pktLen l = none ∧ z1.dead = z.dead ∧ z1.st.chan = z.st.chan ∧ z1.st.pktLen = z.st.pktLen := by
    intro z z1 l hfull h1
    simp only [relayStepOld, Option.map_eq_some_iff] at h1
    obtain ⟨s1, hs1, rfl⟩ := h1
    cases relayStep_iff.1 hs1 with | line _ hen =>
    have hnone := hen.resolve_left (by rw [hfull]; decide)
    exact ⟨hnone, rfl, by simp [acceptedBy, hnone], rfl⟩
  induction cont generalizing z with
  | nil =>
    cases h
    refine ⟨hd, rfl, rfl, fun ok => by simp [relayStepOld, hd], fun ok => by simp [relayStepOld, hd], fun l hl => ?_⟩
    cases h1 : relayStepOld z' (.line l) with
    | none => rfl
    | some z1 => exact absurd (skip hfull h1).1 hl
  | cons lab rest ih =>
    simp only [relayRunOld, Option.bind_eq_some_iff] at h
    obtain ⟨z1, h1, h⟩ := h
    cases lab with
    | line l =>
      obtain ⟨_, hd1, hc1, hp1⟩ := skip hfull h1
      have := ih z1 (hd1.trans hd) (hc1 ▸ hfull) h
      rwa [hc1, hp1] at this
    | deq ok => simp [relayStepOld, hd] at h1
    | tick ok => simp [relayStepOld, hd] at h1

/-! ### Non-vacuity: concrete schedules, packet length 8 -/

/-- `"ab"`, `"cd\n"`, `"efg"` are accepted (3 + 3 + 4 bytes: the third does not fit into the first
    datagram), `"12345678"` is over-long, `""` is ignored; the tick flushes `"efg\n"` -/
def exSched : List RelayLabel :=
  [.line [97, 98], .line [99, 100, 10], .deq true, .deq true, .line [101, 102, 103], .deq true,
   .line [49, 50, 51, 52, 53, 54, 55, 56], .line [], .tick true]

example : (relayRun (relayInit 8) exSched).map (fun s => (s.sent, s.lost, s.buffer, s.chan)) =
    some ([[97, 98, 10, 99, 100, 10], [101, 102, 103, 10]], [], [], []) := by decide +kernel
example : (relayRun (relayInit 8) exSched).map (fun s => (s.packets, s.longLines, s.relayed)) =
    some (2, 1, 3) := by decide +kernel
example : acceptedOf 8 exSched = [[97, 98, 10], [99, 100, 10], [101, 102, 103, 10]] := by decide +kernel
example : longOf 8 exSched = 1 := by decide +kernel
example : AllOk exSched := by decide +kernel
-- the boundary: a line of `n - 1 = 7` bytes is accepted and fills a datagram of exactly 8 bytes
example : acceptedOf 8 [.line [49, 50, 51, 52, 53, 54, 55]] = [[49, 50, 51, 52, 53, 54, 55, 10]] := by decide +kernel

/-- the same lines, but the first datagram's send fails: it is lost (and counted), the relay goes on
    and forwards the next datagram -/
def exFail : List RelayLabel :=
  [.line [97, 98], .line [99, 100, 10], .deq true, .deq true, .line [101, 102, 103], .deq false,
   .tick true]

example : (relayRun (relayInit 8) exFail).map (fun s => (s.sent, s.lost, s.buffer, s.packets, s.relayed)) =
    some ([[101, 102, 103, 10]], [[97, 98, 10, 99, 100, 10]], [], 2, 3) := by decide +kernel
example : ¬ AllOk exFail := by decide +kernel

/-- the original code: one failed send (a tick with one buffered line), then 100 more lines fill the
    channel -/
def exOldDead : List RelayLabel :=
  [.line [97], .deq true, .tick false] ++ List.replicate 100 (.line [97])

-- … the sender is dead, the channel full, and neither the sender nor `RelayLine` can ever move
example : (relayRunOld ⟨relayInit 8, false⟩ exOldDead).map (fun z => (z.dead, z.st.chan.length)) =
    some (true, 100) := by decide +kernel
example : (relayRunOld ⟨relayInit 8, false⟩ (exOldDead ++ [.line [97]])).isSome = false := by decide +kernel
example : (relayRunOld ⟨relayInit 8, false⟩ (exOldDead ++ [.deq true])).isSome = false := by decide +kernel
example : (relayRunOld ⟨relayInit 8, false⟩ (exOldDead ++ [.tick true])).isSome = false := by decide +kernel
-- the repaired code, same history: the sender is alive, one receive later `RelayLine` proceeds
example : (relayRun (relayInit 8) (exOldDead ++ [.line [97]])).isSome = false := by decide +kernel
example : (relayRun (relayInit 8) (exOldDead ++ [.deq true, .line [97]])).isSome = true := by decide +kernel
example : (relayRun (relayInit 8) (exOldDead ++ [.deq false, .line [97]])).isSome = true := by decide +kernel

end SE.Props.C17
