import SE.Proofs.LineMulti
/-
C10 — Multi-sample and extended-aggregation lines decompose sample by sample.

`lineToEvents` is the model of `LineToEvents` (SE/Model/Line.lean); `mkLine name rest` is the
line `name:rest`. Every theorem holds for all value types `V` with `NumOps V`, all
parse-float oracles `pf`, all flag combinations `fl` and all byte strings in the stated
domain (no size bounds). The domains are the structures `MultiDom` and `ExtAggDom` of
SE/Spec/Line.lean (each field is one guard); helper lemmas are in SE/Proofs/Bytes.lean,
LineLabels.lean, LineSample.lean, Line.lean and LineMulti.lean.
-/
namespace SE.Props.C10
open SE
variable {V : Type} [NumOps V]

/-- A line `name:s1:s2:…:sk` yields exactly the events of the single-sample lines `name:s1`,
    `name:s2`, … in order, and the same number of sample-error increments; `samplesReceived`
    moves once per part; tag errors are those of the name (as for every `name:sᵢ`); the label
    map is that of every single line `name:sᵢ` whose `sᵢ` contains a `|` (a part without `|`
    is, as a line of its own, rejected before labels are attached to anything).
    Guards: `MultiDom` (name non-empty without `:`, parts without `:`, first part has a `|`,
    no `|#` after the first colon). -/
theorem multi_sample_decomposes (fl : ParserFlags) (pf : Pf V) (e0 : Bytes) (ss : List Bytes)
    (d : MultiDom e0 ss) :
    let whole := lineToEvents fl pf true (mkLine e0 (joinWith cColon ss))
    let single := fun s => lineToEvents fl pf true (mkLine e0 s)
    whole.events = (ss.map fun s => (single s).events).flatten ∧
    whole.errs.length = (ss.map fun s => (single s).errs.length).sum ∧
    whole.samples = ss.length ∧
    (∀ s ∈ ss, cPipe ∈ s → whole.labels = (single s).labels) ∧
    (∀ s ∈ ss, whole.tagErrs = (single s).tagErrs) := by
  intro whole single
  rcases hnt : parseNameAndTags fl e0 with ⟨m, L, E⟩
  have hs : ∀ s, single s = afterName fl pf (m, L, E) s :=
    fun s => lineToEvents_eq fl pf s d.name_ne d.name_colon hnt
  have hw : whole = ss.foldl (parseSample fl pf m) (startSt L E) :=
    lineToEvents_of_samples fl pf d.name_ne d.name_colon hnt (d.samples _)
  have he : ∀ s ∈ ss, (single s).events = _ ∧ (single s).errs.length = _ :=
    fun s h => hs s ▸ afterName_single_effect fl pf m L E s (d.no_colon s h) (d.no_dog_mem h)
  have h1 : ∀ s ∈ ss, single s = _ :=
    fun s h => (hs s).trans (afterName_single fl pf m L E s (d.no_colon s h) (d.no_dog_mem h))
  obtain ⟨a1, a2, a3, -, -⟩ := foldl_parseSample fl pf m ss (startSt L E)
  obtain ⟨b1, b2⟩ := foldl_parseSample_inert fl pf m ss
    (fun s h => inert_of_no_dog fl (d.no_dog_mem h)) (startSt L E)
  rw [hw]
  refine ⟨?_, ?_, ?_, fun s hmem hps => ?_, fun s hmem => ?_⟩
  · rw [a1]
    exact congrArg List.flatten (List.map_congr_left fun s h => (he s h).1.symm)
  · rw [a2]
    simp only [startSt, List.nil_append, List.length_flatten, List.map_map]
    exact congrArg List.sum (List.map_congr_left fun s h => (he s h).2.symm)
  · rw [a3]; exact Nat.zero_add _
  · rw [b1, h1 s hmem, if_pos hps]
    rfl
  · rw [b2, h1 s hmem]
    split <;> rfl

/-- When every part contains a `|` the decomposition is exact on the error *reasons* and on
    `samplesReceived` too: the reasons of the whole line are the concatenation of the reasons of
    the single lines, and the sample counter is the sum of theirs. Guards: `MultiDom` plus
    "every part contains `|`". -/
theorem multi_sample_decomposes_exact (fl : ParserFlags) (pf : Pf V) (e0 : Bytes) (ss : List Bytes)
    (d : MultiDom e0 ss) (hpipe : ∀ s ∈ ss, cPipe ∈ s) :
    let whole := lineToEvents fl pf true (mkLine e0 (joinWith cColon ss))
    let single := fun s => lineToEvents fl pf true (mkLine e0 s)
    whole.errs = (ss.map fun s => (single s).errs).flatten ∧
    whole.samples = (ss.map fun s => (single s).samples).sum := by
  intro whole single
  have line := fun s x => lineToEvents_of_samples fl pf d.name_ne d.name_colon rfl (e1 := s) (x := x)
  obtain ⟨-, a2, a3, -⟩ := foldl_parseSample_vs_singles fl pf _ _ _ id ss whole single
    (line _ (.ok _) (by rw [List.map_id]; exact d.samples _))
    fun s h => line s (.ok [s]) (lineSamples_single _ (hpipe s h) (d.no_colon s h) (d.no_dog_mem h))
  exact ⟨a2, a3⟩

/-- An extended-aggregation shaped line `name:p0|p1 rest` (the part `p0` before the first `|`
    contains a `:`) whose type field `p1` is not `ms`, `h` or `d` is rejected as a whole: no
    events, exactly one `invalid_extended_aggregate_type`, `samplesReceived` untouched.
    Guards: name non-empty without `:`; `p0`, `p1` without `|`; `rest` empty or starting with
    `|`; the line is not already rejected as mixed tagging (`|#` absent or no name-side labels —
    otherwise see `mixed_rejected` in C09: that check comes first). -/
theorem ext_agg_bad_type (fl : ParserFlags) (pf : Pf V) (e0 p0 p1 rest : Bytes)
    (h0 : e0 ≠ []) (hc0 : cColon ∉ e0) (hp0 : cPipe ∉ p0) (hp1 : cPipe ∉ p1)
    (hrest : rest = [] ∨ ∃ r, rest = cPipe :: r) (hcol : cColon ∈ p0)
    (hT : isExtAggType p1 = false)
    (hmix : containsSub [cPipe, cHash] (p0 ++ cPipe :: (p1 ++ rest)) = false ∨
            (parseNameAndTags fl e0).2.1 = []) :
    let r := lineToEvents fl pf true (mkLine e0 (p0 ++ cPipe :: (p1 ++ rest)))
    r.events = [] ∧ r.errs = [.invalidExtAggType] ∧ r.samples = 0 := by
  intro r
  rw [show r = _ from lineToEvents_of_samples fl pf h0 hc0 rfl
    ((lineSamples_extagg hp0 hp1 hrest hcol (not_mixed hmix)).trans (if_neg (Bool.eq_false_iff.mp hT)))]
  exact ⟨rfl, rfl, rfl⟩

/-- A DogStatsD extended-aggregation line `name:v1:v2:…:vk|T rest` (T one of ms, h, d) yields
    exactly the events of the lines `name:v1|T rest`, `name:v2|T rest`, … in order.
    Guards: `ExtAggDom`. -/
theorem ext_agg_decomposes (fl : ParserFlags) (pf : Pf V) (e0 : Bytes) (vs : List Bytes) (T rest : Bytes)
    (d : ExtAggDom e0 vs T rest) :
    let whole := lineToEvents fl pf true (mkLine e0 (joinWith cColon vs ++ cPipe :: (T ++ rest)))
    let single := fun v => lineToEvents fl pf true (mkLine e0 (v ++ cPipe :: (T ++ rest)))
    whole.events = (vs.map fun v => (single v).events).flatten := by
  intro whole single
  rcases d.lines fl pf rfl with ⟨-, hw, hv⟩ | ⟨hw, hv⟩
  · -- mixed tagging: the whole line and every single line are rejected
    exact (congrArg ParseOut.events hw).trans (List.flatten_eq_nil_iff.mpr
      (List.forall_mem_map.mpr fun v h => congrArg ParseOut.events (hv v h))).symm
  · exact (foldl_parseSample_vs_singles fl pf _ _ _ _ vs whole single hw hv).1

/-- For an extended-aggregation line that is not rejected as mixed tagging (no `|#` in `rest`,
    or no name-side labels) the sample-error reasons are the concatenation of those of the single
    lines and `samplesReceived` is the sum of theirs; `tagErrors`: the name-side tag errors are
    counted once per line, the `#`-section's once per sample, so
    `whole.tagErrs + (k-1)·nameTagErrs` is the sum over the single lines.
    (If the line *is* mixed, it raises one `mixed_tagging_styles` — and so does each of the `k`
    single lines, so the counts differ there; see C09 `mixed_rejected`.)
    Guards: `ExtAggDom`, not mixed. -/
theorem ext_agg_decomposes_errs (fl : ParserFlags) (pf : Pf V) (e0 : Bytes) (vs : List Bytes)
    (T rest : Bytes) (d : ExtAggDom e0 vs T rest)
    (hmix : containsSub [cPipe, cHash] rest = false ∨ (parseNameAndTags fl e0).2.1 = []) :
    let whole := lineToEvents fl pf true (mkLine e0 (joinWith cColon vs ++ cPipe :: (T ++ rest)))
    let single := fun v => lineToEvents fl pf true (mkLine e0 (v ++ cPipe :: (T ++ rest)))
    whole.errs = (vs.map fun v => (single v).errs).flatten ∧
    whole.samples = (vs.map fun v => (single v).samples).sum ∧
    whole.tagErrs + (vs.length - 1) * (parseNameAndTags fl e0).2.2 =
      (vs.map fun v => (single v).tagErrs).sum := by
  intro whole single
  rcases d.lines fl pf rfl with ⟨hm, -⟩ | ⟨hw, hv⟩
  · rw [not_mixed hmix] at hm
    cases hm
  · obtain ⟨-, a2, a3, a4⟩ := foldl_parseSample_vs_singles fl pf _ _ _ _ vs whole single hw hv
    refine ⟨a2, a3, ?_⟩
    -- the loop counts the name's tag errors once, each of the `k ≥ 2` single lines once more
    obtain ⟨a, b, l, hvs⟩ := d.two
    have hk : vs.length = (l.length + 1) + 1 := by rw [hvs]; rfl
    rw [hk, Nat.succ_mul] at a4
    rw [hk, Nat.add_sub_cancel]
    omega

/-- Labels of an extended-aggregation line: every rebuilt sample re-parses the same `#tags`
    section into the one shared label map, which is idempotent (`applyKVs_idem`), so the final
    label map of the whole line equals the label map of *every* single line `name:vᵢ|T rest`
    whose sample is accepted (value parses, fields well-formed — `sampleAccepted`); and if no
    sample is accepted, it equals the label map of all of them (the name's labels).
    (A single line whose value does not parse never looks at its tag section, so its map can be
    smaller than the whole line's; that is why the statement is per accepted sample.)
    No distinctness assumption on tag keys is needed. Guards: `ExtAggDom`. -/
theorem ext_agg_labels (fl : ParserFlags) (pf : Pf V) (e0 : Bytes) (vs : List Bytes) (T rest : Bytes)
    (d : ExtAggDom e0 vs T rest) :
    let whole := lineToEvents fl pf true (mkLine e0 (joinWith cColon vs ++ cPipe :: (T ++ rest)))
    let single := fun v => lineToEvents fl pf true (mkLine e0 (v ++ cPipe :: (T ++ rest)))
    (∀ v ∈ vs, sampleAccepted pf (v ++ cPipe :: (T ++ rest)) = true → whole.labels = (single v).labels) ∧
    ((∀ v ∈ vs, sampleAccepted pf (v ++ cPipe :: (T ++ rest)) = false) →
      ∀ v ∈ vs, whole.labels = (single v).labels) := by
  intro whole single
  rcases d.lines fl pf rfl with ⟨-, hw, hv⟩ | ⟨hw, hv⟩
  · -- mixed tagging: the whole line and every single line are rejected, with no labels
    exact ⟨fun v h _ => congrArg ParseOut.labels (hw.trans (hv v h).symm),
      fun _ v h => congrArg ParseOut.labels (hw.trans (hv v h).symm)⟩
  · have hl : ∀ v ∈ vs, whole.labels = _ ∧ (single v).labels = _ := fun v h =>
      ⟨(congrArg ParseOut.labels hw).trans (foldl_rebuilt_labels fl pf _ (T ++ rest) vs d.no_pipe _),
        (congrArg ParseOut.labels (hv v h)).trans
          (parseSample_labels_rebuilt fl pf _ _ v (T ++ rest) (d.no_pipe v h))⟩
    refine ⟨fun v h ha => ?_, fun hn v h => ?_⟩
    · rw [(hl v h).1, (hl v h).2, if_pos ha, if_pos (List.any_eq_true.mpr ⟨v, h, ha⟩)]
    · rw [(hl v h).1, (hl v h).2, if_neg (Bool.eq_false_iff.mp (hn v h)), if_neg (by simpa using hn)]

/-- A sample is *rejected* by the parser if its single-sample line yields no event and raises
    at least one sample-error counter. (A sample such as `1|ms|@2` yields no event *without*
    any error — `int(1/2) = 0` copies — so "no events" alone does not imply an error.) -/
def Rejected (fl : ParserFlags) (pf : Pf V) (e0 s : Bytes) : Prop :=
  (lineToEvents fl pf true (mkLine e0 s)).events = [] ∧
  (lineToEvents fl pf true (mkLine e0 s)).errs ≠ []

/-- The syntactic classes of DESIGN.md are rejected: fewer than 2 or more than 4 `|`-fields, a
    value that does not parse, an empty extra field, an unknown type or type `s`
    (`sampleRejected`, SE/Spec/Line.lean). Guards: name non-empty without `:`, sample without
    `:` and without `|#`. -/
theorem sampleRejected_rejected (fl : ParserFlags) (pf : Pf V) (e0 s : Bytes)
    (h0 : e0 ≠ []) (hc0 : cColon ∉ e0) (hc : cColon ∉ s)
    (hd : containsSub [cPipe, cHash] s = false) (hr : sampleRejected pf s = true) :
    Rejected fl pf e0 s := by
  rcases hnt : parseNameAndTags fl e0 with ⟨m, L, E⟩
  obtain ⟨hev, her⟩ := effect_rejected fl pf m s hr
  obtain ⟨h1, h2⟩ := afterName_single_effect fl pf m L E s hc hd
  unfold Rejected
  rw [mkLine, lineToEvents_eq fl pf _ h0 hc0 hnt]
  exact ⟨h1.trans hev, fun h => her (List.length_eq_zero_iff.mp (h2.symm.trans (congrArg List.length h)))⟩

/-- Replacing one sample of a multi-sample line by a sample `bad` whose single-sample line
    yields no events removes exactly that sample's events: the events of the line are those of
    the neighbours `pre` and `post`, in order, unchanged (compare `multi_sample_decomposes` for
    the line with the original sample); and if `bad` raises a sample-error counter on its own
    line (in particular if it is `Rejected`, e.g. by `sampleRejected_rejected`), the whole line
    raises at least one too.
    Guards: `MultiDom` for the line *with* `bad` in place (so `bad` has no `:`, introduces no
    `|#`, and — if it is the first part — still contains a `|`; a first part without `|` changes
    how the whole line is split and is outside the domain), `bad`'s own line yields no events. -/
theorem bad_sample_is_local (fl : ParserFlags) (pf : Pf V) (e0 bad : Bytes) (pre post : List Bytes)
    (d : MultiDom e0 (pre ++ bad :: post))
    (hbad : (lineToEvents fl pf true (mkLine e0 bad)).events = []) :
    let whole := lineToEvents fl pf true (mkLine e0 (joinWith cColon (pre ++ bad :: post)))
    let single := fun s => lineToEvents fl pf true (mkLine e0 s)
    whole.events = (pre.map fun s => (single s).events).flatten ++
                   (post.map fun s => (single s).events).flatten ∧
    ((single bad).errs ≠ [] → whole.errs.length > 0) := by
  intro whole single
  obtain ⟨h1, h2, _⟩ := multi_sample_decomposes fl pf e0 _ d
  constructor
  · rw [h1]
    simp only [List.map_append, List.map_cons, List.flatten_append, List.flatten_cons]
    rw [hbad]; simp [single]
  · intro herr
    rw [h2]
    simp only [List.map_append, List.map_cons, List.sum_append, List.sum_cons]
    have : (lineToEvents fl pf true (mkLine e0 bad)).errs.length > 0 :=
      List.length_pos_iff.mpr herr
    omega

/-- `bad_sample_is_local` for a `Rejected` sample: its events vanish, the neighbours' events are
    untouched, and an error counter is raised. Guards: as `bad_sample_is_local`, `Rejected bad`. -/
theorem rejected_sample_is_local (fl : ParserFlags) (pf : Pf V) (e0 bad : Bytes) (pre post : List Bytes)
    (d : MultiDom e0 (pre ++ bad :: post)) (hbad : Rejected fl pf e0 bad) :
    let whole := lineToEvents fl pf true (mkLine e0 (joinWith cColon (pre ++ bad :: post)))
    let single := fun s => lineToEvents fl pf true (mkLine e0 s)
    whole.events = (pre.map fun s => (single s).events).flatten ++
                   (post.map fun s => (single s).events).flatten ∧
    whole.errs.length > 0 := by
  intro whole single
  obtain ⟨h1, h2⟩ := bad_sample_is_local fl pf e0 bad pre post d hbad.1
  exact ⟨h1, h2 hbad.2⟩

/-! ### Non-vacuity: the hypotheses are satisfiable and the conclusions non-trivial
    (toy number type `intOps` = integers, toy oracle `toyPf` accepting "1", "2", "5";
    SE/Spec/Line.lean) -/
section Examples
local instance : NumOps Int := intOps
private def allOn : ParserFlags := ⟨true, true, true, true⟩

-- name "m", parts "1|c", "x|c", "2|g": the domain holds …
example : MultiDom [109] [[49, 124, 99], [120, 124, 99], [50, 124, 103]] :=
  ⟨by decide, by decide, ⟨_, _, rfl, by decide⟩, by decide, by decide⟩
-- … "m:1|c:x|c:2|g" yields a counter and a gauge and one malformed_value; the middle part alone is rejected
example : ((lineToEvents allOn toyPf true [109, 58, 49, 124, 99, 58, 120, 124, 99, 58, 50, 124, 103]).events.map (·.kind)) = [.counter, .gauge] := by decide +kernel
example : (lineToEvents allOn toyPf true [109, 58, 49, 124, 99, 58, 120, 124, 99, 58, 50, 124, 103]).errs = [.malformedValue] := by decide +kernel
example : Rejected allOn toyPf [109] [120, 124, 99] := ⟨by decide, by decide⟩
example : sampleRejected toyPf [120, 124, 99] = true := by decide +kernel
-- a part without `|`: one error either way, but a different reason and a different sample count
example : (lineToEvents allOn toyPf true [109, 58, 49, 124, 99, 58, 50]).errs = [.malformedComponent] ∧
    (lineToEvents allOn toyPf true [109, 58, 49, 124, 99, 58, 50]).samples = 2 ∧
    (lineToEvents allOn toyPf true [109, 58, 50]).errs = [.notEnoughParts] ∧
    (lineToEvents allOn toyPf true [109, 58, 50]).samples = 0 := by decide +kernel
-- why `Rejected` asks for an error: "1|ms|@2" yields int(1/2) = 0 events and no error
example : (lineToEvents allOn toyPf true [109, 58, 49, 124, 109, 115, 124, 64, 50]).events.length = 0 ∧
    (lineToEvents allOn toyPf true [109, 58, 49, 124, 109, 115, 124, 64, 50]).errs = [] := by decide +kernel
-- extended aggregation "m:1:2|ms|#a:b": domain, two observer events, labels a=b
example : ExtAggDom [109] [[49], [50]] [109, 115] [124, 35, 97, 58, 98] :=
  ⟨by decide, by decide, ⟨_, _, _, rfl⟩, by decide, by decide, by decide, Or.inr ⟨_, rfl⟩, Or.inr (by decide)⟩
example : [109, 58, 49, 58, 50, 124, 109, 115, 124, 35, 97, 58, 98] = mkLine [109] (joinWith cColon [[49], [50]] ++ cPipe :: ([109, 115] ++ [124, 35, 97, 58, 98])) := by decide +kernel
example : ((lineToEvents allOn toyPf true [109, 58, 49, 58, 50, 124, 109, 115, 124, 35, 97, 58, 98]).events.map (·.kind)) = [.observer, .observer] ∧
    (lineToEvents allOn toyPf true [109, 58, 49, 58, 50, 124, 109, 115, 124, 35, 97, 58, 98]).labels = [([97], [98])] := by decide +kernel
-- a colon in `rest` without `|#` really breaks comparability (the `rest_colon` guard):
-- "m:1:2|ms|@1:5|c" is two samples with a bad rate, "m:1|ms|@1:5|c" is a timer plus a counter
example : ((lineToEvents allOn toyPf true [109, 58, 49, 58, 50, 124, 109, 115, 124, 64, 49, 58, 53, 124, 99]).events.map (·.kind)) = [.observer, .observer] ∧
    ((lineToEvents allOn toyPf true [109, 58, 49, 124, 109, 115, 124, 64, 49, 58, 53, 124, 99]).events.map (·.kind)) = [.observer, .counter] := by decide +kernel
-- any other type: rejected as a whole
example : (lineToEvents allOn toyPf true [109, 58, 49, 58, 50, 124, 99]).errs = [.invalidExtAggType] ∧
    (lineToEvents allOn toyPf true [109, 58, 49, 58, 50, 124, 99]).events.length = 0 ∧
    (lineToEvents allOn toyPf true [109, 58, 49, 58, 50, 124, 99]).samples = 0 := by decide +kernel
-- a first part without `|` is outside the domain for a reason: "m:x:1|c" becomes an extended-aggregation line
example : (lineToEvents allOn toyPf true [109, 58, 120, 58, 49, 124, 99]).errs = [.invalidExtAggType] := by decide +kernel
end Examples

end SE.Props.C10
