import SE.Proofs.SafetyFrame
import SE.Proofs.ScrapeLine
import SE.Proofs.LineBound
import SE.Proofs.SafetyLoaded
import SE.Spec.FloatLaws
import SE.Model.System
/-
C02 — No network input can crash or stall the exporter.

What is proved, for *every* byte string (any parser flags, any `strconv.ParseFloat` oracle `pf`,
valid UTF-8 or not):

* the parser `lineToEvents` is a total function (by construction: it is a Lean function without
  `partial`), and handing its events to the exporter never produces a `Panic` outcome — neither a
  client_golang constructor panic nor the endless loop `summaryHang` — provided the configuration is
  safe (`ConfigSafe`, SE/Proofs/SafetyPipe.lean) and the registry was built under safe configurations
  (`VecsSafe`): `packet_total`, `history_total`;
* the proviso is discharged by the loader: every configuration that `InitFromYAMLString` accepts is
  `ConfigSafe` (`load_configSafe`, SE/Proofs/SafetyLoaded.lean, which is C19's `accepted_config_safe`; under the hypotheses `LoaderAssumptions`), so no
  byte string can make the exporter panic or hang under **any** configuration the loader accepted:
  `packet_total_loaded`, `history_total_loaded`, `lines_total_loaded`;
* whatever a line does is local (`hostile_line_is_local`): the registry stays well-formed and safe,
  mapper and clock are unchanged, no metric changes its type, no vector changes, and every series that
  none of the line's own events addresses is the very same record as before; any later line is therefore
  processed by the same function on a state that differs only by what the first line's events
  legitimately created or updated;
* the "stall" half is **false in general** for the current code: the number of events one line produces is
  not bounded by its length (`events_per_line_unbounded`): `a:1|ms|@r` produces `int(1/r)` events
  (open finding `sampling_multiplicity_unbounded`);
* … and it is **true up to exactly that factor**: a line counts no more samples than it has bytes
  (`samples_per_line_bounded`, unconditionally), and every sample yields at most `M` events when `M ≥ 1` bounds
  the repetition count `int(1/rate)` of every rate string (the hypothesis ranges over all strings the float parser can
  be handed, not over the line's own `|@rate` components: `events_per_sample_bounded`), hence
  `events ≤ length × M` (`events_per_line_bounded_partial`; likewise `sampleErrors` increments
  `≤ length × (M + 2)`, `errors_per_line_bounded_partial`). Without sampling rates, or with rates whose
  `int(1/rate)` is at most 1, no line produces more events than it has bytes
  (`events_per_line_bounded_rate_free`). The sampling multiplicity is therefore the *only* source of
  unboundedness: the linear-work claim holds for a number type iff `int(1/x)` is bounded over its non-zero
  values (`events_per_line_bounded_iff`).

The result `none` of `handleEvent(s)` is not an outcome of the program: it marks inputs outside the
modelled `Sprintf` fragment of the template expansion (see SE/Model/Template.lean).
-/
namespace SE.Props.C02
open SE
variable {V : Type} [NumOps V]

/-- the exporter operation "process this line" -/
def lineOp (fl : ParserFlags) (pf : Pf V) (valid : Bool) (line : Bytes) : PipeOp V :=
  .line (lineToEvents fl pf valid line).labels (lineToEvents fl pf valid line).events

/-- **No input line can make the exporter panic or hang.** Under a safe configuration and a safe registry,
    for every byte string `line` (any flags, any float parser, valid UTF-8 or not) processing the events of
    the line never ends in a `Panic` outcome (`bucketsNotIncreasing`, `negativeMaxAge`, `summaryHang`, …). -/
theorem packet_total (p : Pipe V) (rx : Rx) (fl : ParserFlags) (pf : Pf V) (valid : Bool) (line : Bytes)
    (hc : ConfigSafe p.mapper.cfg) (hv : VecsSafe p.reg) (pn : Panic) :
    handleEvents p rx (lineToEvents fl pf valid line).labels (lineToEvents fl pf valid line).events
      ≠ some (.error pn) :=
  ((Safe_steps rx).handleEvents _ _ p ⟨hc, hv⟩).no_panic pn

/-- … and the state it leaves is again safe, with the same (safe) configuration: the hypothesis of
    `packet_total` is re-established for the next line. -/
theorem packet_total_step (p p' : Pipe V) (rx : Rx) (fl : ParserFlags) (pf : Pf V) (valid : Bool) (line : Bytes)
    (hc : ConfigSafe p.mapper.cfg) (hv : VecsSafe p.reg)
    (h : handleEvents p rx (lineToEvents fl pf valid line).labels (lineToEvents fl pf valid line).events = some (.ok p')) :
    ConfigSafe p'.mapper.cfg ∧ VecsSafe p'.reg :=
  ((Safe_steps rx).handleEvents _ _ p ⟨hc, hv⟩).ok h

/-- **No history of inputs can.** Any sequence of lines (arbitrary byte strings, each with its own flags
    and validity), interleaved in any way with sweeps, clock changes and reloads among safe configurations,
    started from a safe state: never a `Panic` outcome. -/
theorem history_total (rx : Rx) (p : Pipe V) (ops : List (PipeOp V))
    (hc : ConfigSafe p.mapper.cfg) (hv : VecsSafe p.reg) (hs : OpsSafe ops) (pn : Panic) :
    runOps rx p ops ≠ some (.error pn) :=
  ((Safe_steps rx).runOps ops p hs ⟨hc, hv⟩).no_panic pn

/-- in particular from the empty registry, with lines only -/
theorem lines_total (rx : Rx) (m : MState V) (hc : ConfigSafe m.cfg) (pre : List (Bytes × MType × Bytes))
    (lines : List (ParserFlags × Pf V × Bool × Bytes)) (pn : Panic) :
    runOps rx { mapper := m, reg := { metrics := [], pre := pre } }
      (lines.map fun l => lineOp l.1 l.2.1 l.2.2.1 l.2.2.2) ≠ some (.error pn) := by
  apply history_total rx _ _ hc (VecsSafe_empty pre)
  intro m' hm'
  obtain ⟨l, _, e⟩ := List.mem_map.mp hm'
  cases e

/-- **No input line can make the exporter panic or hang under any configuration the loader accepted.**
    Let `cfg` be the result of `load` on any raw configuration satisfying `LoaderAssumptions` (the objective law of
    the number type), let it be the current configuration, and let the registry be safe
    (for instance empty). Then for every byte string `line` — any parser flags, any float parser, valid UTF-8 or
    not — processing the events of the line never ends in a `Panic` outcome, and the state it leaves is again
    safe under the same configuration. -/
theorem packet_total_loaded (rxOk : Bytes → Bool) (db : List V) (dq : List (V × V)) (raw : RawConfig V) (cfg : Config V)
    (ha : LoaderAssumptions raw) (hl : load rxOk db dq raw = .ok cfg)
    (p : Pipe V) (hp : p.mapper.cfg = cfg) (hv : VecsSafe p.reg)
    (rx : Rx) (fl : ParserFlags) (pf : Pf V) (valid : Bool) (line : Bytes) :
    (∀ pn, handleEvents p rx (lineToEvents fl pf valid line).labels (lineToEvents fl pf valid line).events
      ≠ some (.error pn)) ∧
    (∀ p', handleEvents p rx (lineToEvents fl pf valid line).labels (lineToEvents fl pf valid line).events = some (.ok p') →
      p'.mapper.cfg = cfg ∧ VecsSafe p'.reg) := by
  subst hp
  have hc := load_configSafe ha hl
  exact ⟨packet_total p rx fl pf valid line hc hv, fun p' h =>
    ⟨by rw [(handleEvents_frame _ h).1], (packet_total_step p p' rx fl pf valid line hc hv h).2⟩⟩

/-- **No history of inputs can**, under configurations the loader accepted: any sequence of lines, sweeps, clock
    changes and reloads of loaded configurations (`OpsLoaded`), from a safe registry. -/
theorem history_total_loaded (rxOk : Bytes → Bool) (db : List V) (dq : List (V × V)) (raw : RawConfig V) (cfg : Config V)
    (ha : LoaderAssumptions raw) (hl : load rxOk db dq raw = .ok cfg)
    (rx : Rx) (p : Pipe V) (hp : p.mapper.cfg = cfg) (hv : VecsSafe p.reg) (ops : List (PipeOp V)) (ho : OpsLoaded ops)
    (pn : Panic) : runOps rx p ops ≠ some (.error pn) :=
  history_total rx p ops (hp ▸ load_configSafe ha hl) hv ho.opsSafe pn

/-- in particular from process start (freshly loaded mapper, empty registry), with arbitrary byte strings as lines -/
theorem lines_total_loaded (rxOk : Bytes → Bool) (db : List V) (dq : List (V × V)) (raw : RawConfig V) (cfg : Config V)
    (ha : LoaderAssumptions raw) (hl : load rxOk db dq raw = .ok cfg)
    (rx : Rx) (pre : List (Bytes × MType × Bytes)) (lines : List (ParserFlags × Pf V × Bool × Bytes)) (pn : Panic) :
    runOps rx { mapper := MState.fresh cfg, reg := { metrics := [], pre := pre } }
      (lines.map fun l => lineOp l.1 l.2.1 l.2.2.1 l.2.2.2) ≠ some (.error pn) :=
  lines_total rx (MState.fresh cfg) (load_configSafe ha hl) pre lines pn

/-- **No network input can**, end to end (SE/Model/System.lean: listener framing, parser and exporter composed): from
    process start under any configuration the loader accepted, whatever byte strings arrive as UDP/Unixgram datagrams
    and as TCP connection streams, in any order, processing them never ends in a `Panic` outcome. `inputs` lists the
    network inputs in the order in which the exporter goroutine sees their lines: `.inl d` a datagram, `.inr s` the
    byte stream of a TCP connection. -/
theorem network_input_total_loaded (rxOk : Bytes → Bool) (db : List V) (dq : List (V × V)) (raw : RawConfig V) (cfg : Config V)
    (ha : LoaderAssumptions raw) (hl : load rxOk db dq raw = .ok cfg)
    (rx : Rx) (pre : List (Bytes × MType × Bytes)) (fl : ParserFlags) (pf : Pf V) (inputs : List (Bytes ⊕ Bytes)) (pn : Panic) :
    runOps rx { mapper := MState.fresh cfg, reg := { metrics := [], pre := pre } }
      (inputs.flatMap fun i => match i with
        | .inl d => SE.datagramOps fl pf d
        | .inr s => SE.tcpOps fl pf s) ≠ some (.error pn) := by
  apply history_total rx _ _ (load_configSafe ha hl) (VecsSafe_empty pre)
  intro m hm
  obtain ⟨i, _, hi⟩ := List.mem_flatMap.mp hm
  -- a datagram and a stream alike contribute `lineOp`s only, never a reload
  cases i <;>
  · obtain ⟨l, _, e⟩ := List.mem_map.mp hi
    cases e

/-- **Whatever a line does is local.** Let `h` be any byte string, processed from a state with a
    well-formed, safe registry under a safe configuration, and let `p'` be the resulting state. Then
    * the registry is again well-formed and safe, configuration/mapper and clock are unchanged;
    * no metric changes its type and no vector (help, buckets, summary options) changes;
    * every series that none of `h`'s own events addresses is the same record as before (nothing else is
      created, updated or removed);
    * every later event gets exactly the registry request it would have got without `h`. -/
theorem hostile_line_is_local (p p' : Pipe V) (rx : Rx) (fl : ParserFlags) (pf : Pf V) (valid : Bool) (h : Bytes)
    (hw : RegWF p.reg) (hc : ConfigSafe p.mapper.cfg) (hv : VecsSafe p.reg)
    (hrun : handleEvents p rx (lineToEvents fl pf valid h).labels (lineToEvents fl pf valid h).events = some (.ok p')) :
    RegWF p'.reg ∧ VecsSafe p'.reg ∧ p'.mapper = p.mapper ∧ p'.now = p.now ∧
    (∀ name t, p.reg.type? name = some t → p'.reg.type? name = some t) ∧
    (∀ name names v, p.reg.vec? name names = some v → p'.reg.vec? name names = some v) ∧
    (∀ name L, ¬ LineAddresses p rx (lineToEvents fl pf valid h).labels (lineToEvents fl pf valid h).events name L →
      p'.reg.series? name L = p.reg.series? name L) ∧
    (∀ (ev : Ev V) (tags : Labels), (evTarget p' rx ev tags).map (·.2) = (evTarget p rx ev tags).map (·.2)) := by
  obtain ⟨f1, f2, f3, f4, f5⟩ := handleEvents_frame _ hrun
  exact ⟨((RegWF_steps rx).handleEvents _ _ p hw).ok hrun, (packet_total_step p p' rx fl pf valid h hc hv hrun).2, f1, f2, f3, f4, f5,
    fun ev tags => evTarget_congr p' p f1 rx ev tags⟩

/-- The same without any assumption on the configuration (a panic is then a possible outcome, but *if* the
    line is processed, the frame holds): locality does not depend on `ConfigSafe`. -/
theorem hostile_line_is_local_any_config (p p' : Pipe V) (rx : Rx) (tags : Labels) (evs : List (Ev V))
    (hw : RegWF p.reg) (hrun : handleEvents p rx tags evs = some (.ok p')) :
    RegWF p'.reg ∧ p'.mapper = p.mapper ∧ p'.now = p.now ∧
    (∀ name t, p.reg.type? name = some t → p'.reg.type? name = some t) ∧
    (∀ name names v, p.reg.vec? name names = some v → p'.reg.vec? name names = some v) ∧
    (∀ name L, ¬ LineAddresses p rx tags evs name L → p'.reg.series? name L = p.reg.series? name L) := by
  obtain ⟨f1, f2, f3, f4, f5⟩ := handleEvents_frame _ hrun
  exact ⟨((RegWF_steps rx).handleEvents _ _ p hw).ok hrun, f1, f2, f3, f4, f5⟩

/-- A line that produces no event (malformed, empty, invalid UTF-8, …) changes nothing at all. -/
theorem eventless_line_is_noop (p : Pipe V) (rx : Rx) (fl : ParserFlags) (pf : Pf V) (valid : Bool) (line : Bytes)
    (h : (lineToEvents fl pf valid line).events = []) :
    handleEvents p rx (lineToEvents fl pf valid line).labels (lineToEvents fl pf valid line).events = some (.ok p) := by
  rw [h]; rfl

/-- a line that is not valid UTF-8 produces no event, whatever its bytes are -/
theorem invalid_utf8_no_events (fl : ParserFlags) (pf : Pf V) (line : Bytes) :
    (lineToEvents fl pf false line).events = [] := by
  unfold lineToEvents
  cases line.isEmpty with
  | true => rfl
  | false =>
    rw [if_neg Bool.false_ne_true]
    cases cut cColon line with
    | none => rfl
    | some e =>
      -- `!valid` is `true`, so the test on what precedes the colon succeeds whatever it is
      show (if (e.1.isEmpty || true) = true then _ else _ : ParseOut V).events = []
      rw [if_pos (Bool.or_true _)]

/-! ### the "stall" half: events per line are not bounded by the line length -/

/-- (FALSE on the current code) the work one line causes is linear in its length -/
def events_per_line_bounded_statement (V : Type) [NumOps V] : Prop :=
  ∃ c, ∀ (fl : ParserFlags) (pf : Pf V) (line : Bytes), (lineToEvents fl pf true line).events.length ≤ c * line.length

/-- **Sampling-rate amplification.** The 9-byte line `a:1|ms|@r` produces `int(1/r)` identical events
    (`recipInt sf`, for the value `sf` that `ParseFloat("r")` returns): `LineToEvents` repeats a timer sample
    `1/rate` times. For every flags setting and every number type. -/
theorem sample_rate_multiplies_events (fl : ParserFlags) (pf : Pf V) (v sf : V)
    (h1 : pf [49] = (v, .ok)) (h2 : pf [114] = (sf, .ok)) (hz : NumOps.isZero sf = false) :
    (lineToEvents fl pf true amplLine).events =
      List.replicate (NumOps.recipInt sf).toNat ⟨.observer, [97], NumOps.div v NumOps.thousand, false⟩ := by
  have e : amplLine = [97] ++ cColon :: ratedSample [49] [109, 115] [114] := by decide +kernel
  have hn : PlainName fl [97] := by constructor <;> simp [cColon, cHash, cComma, cLBr, cRBr]
  rw [e, line_rated_events fl pf hn (by simp [cPipe]) (by simp [cColon]) (by simp [cPipe]) (by simp [cColon])
    (by simp [cPipe]) (by simp [cColon]) h1]
  simp [emit, buildEvent, rateValue, rateCopies, effRate, h2, hz, show statTypeOf [109, 115] = .ms by decide]

/-- Hence: whenever `int(1/x)` is unbounded over the non-zero values of the number type (as it is for
    float64: `int(1/x)` exceeds any given `N` for `x` small enough, although `int(1/(1/N))` is not always `N`), no constant bounds the number of events per input byte. -/
theorem events_per_line_unbounded_of
    (hrecip : ∀ N : Nat, ∃ sf : V, NumOps.isZero sf = false ∧ N ≤ (NumOps.recipInt sf).toNat) :
    ¬ events_per_line_bounded_statement V := by
  rintro ⟨c, hc⟩
  obtain ⟨sf, hz, hN⟩ := hrecip (c * amplLine.length + 1)
  have := hc ⟨false, false, false, false⟩ (fun _ => (sf, .ok)) amplLine
  rw [sample_rate_multiplies_events _ _ sf sf rfl rfl hz, List.length_replicate] at this
  omega

/-- the toy number type of SE/Spec/FloatLaws.lean with `int(1/x)` replaced by the identity: the rate `r` in
    `@r` stands directly for the repetition count -/
@[reducible] def toyRecipId : NumOps Int := { toyNumOps with recipInt := id }

/-- **For every N there is a line of at most 12 bytes (and a float parser) with at least N events**: the 9 bytes
    of `amplLine`, every number parsed as `N + 1` -/
theorem line_with_N_events (N : Nat) (fl : ParserFlags) :
    ∃ (pf : Pf Int) (line : Bytes), line.length ≤ 12 ∧
      N ≤ (@lineToEvents Int toyRecipId fl pf true line).events.length := by
  refine ⟨fun _ => ((N : Int) + 1, .ok), amplLine, by decide +kernel, ?_⟩
  have hz : (((N : Int) + 1) == 0) = false := beq_eq_false_iff_ne.2 (by omega)
  rw [@sample_rate_multiplies_events _ toyRecipId fl _ ((N : Int) + 1) ((N : Int) + 1) rfl rfl hz,
    List.length_replicate]
  show N ≤ ((N : Int) + 1).toNat
  omega

/-- **the bounded-work claim is false** -/
theorem events_per_line_unbounded : ¬ @events_per_line_bounded_statement Int toyRecipId := by
  rintro ⟨c, hc⟩
  obtain ⟨pf, line, hlen, hN⟩ := line_with_N_events (c * 12 + 1) ⟨false, false, false, false⟩
  have := Nat.le_trans hN (hc _ pf line)
  have := Nat.mul_le_mul_left c hlen
  omega

/-! ### … and the sampling multiplicity is the only source of unboundedness -/

/-- **A line counts no more samples than it has bytes** (fewer, unless it is empty) — unconditionally (any number
    type, flags, float parser, validity): the samples are `:`-separated pieces of what follows the non-empty name and
    its colon. -/
theorem samples_per_line_bounded (fl : ParserFlags) (pf : Pf V) (valid : Bool) (line : Bytes) :
    (lineToEvents fl pf valid line).samples ≤ line.length := by
  cases line with
  | nil => exact Nat.le_refl _
  | cons b bs => exact Nat.le_of_lt (samples_lt_length fl pf valid (b :: bs) (List.cons_ne_nil b bs))

/-- **A sample yields at most `M` events**, if `M ≥ 1` bounds every repetition count `int(1/rate)` that the
    float parser can make a `|@rate` component set (`stepComponent`: the parsed rate, replaced by 1 if it is 0,
    goes through `recipInt`; without a rate component the count is 1). -/
theorem events_per_sample_bounded (M : Nat) (hM1 : 1 ≤ M) (pf : Pf V)
    (hM : ∀ b : Bytes, (NumOps.recipInt (if NumOps.isZero (pf b).1 then NumOps.one else (pf b).1)).toNat ≤ M)
    (fl : ParserFlags) (valid : Bool) (line : Bytes) :
    (lineToEvents fl pf valid line).events.length ≤ (lineToEvents fl pf valid line).samples * M :=
  events_le_samples_mul fl pf valid line M hM1 hM

/-- **The work a line causes is linear in its length times the largest repetition count `int(1/rate)` its
    sampling rates ask for.** If `M ≥ 1` bounds the repetition counts `int(1/rate)` of all rates the float
    parser `pf` can return, then a line of `n` bytes produces at most `n × M` events — for every number type,
    flags setting, validity flag and byte string. Without sampling rates (the count is then 1), or with rates
    `≥ 1/M`, no line amplifies by more than `M`; the only way to get more than `n` events out of `n` bytes is a
    `|@rate` component with `int(1/rate) > 1`. This is exactly the boundary of the open finding
    `sampling_multiplicity_unbounded`: `events_per_line_unbounded_of` needs unbounded `int(1/rate)`, and
    bounded `int(1/rate)` gives this theorem. -/
theorem events_per_line_bounded_partial (M : Nat) (hM1 : 1 ≤ M) (pf : Pf V)
    (hM : ∀ b : Bytes, (NumOps.recipInt (if NumOps.isZero (pf b).1 then NumOps.one else (pf b).1)).toNat ≤ M)
    (fl : ParserFlags) (valid : Bool) (line : Bytes) :
    (lineToEvents fl pf valid line).events.length ≤ line.length * M :=
  Nat.le_trans (events_le_samples_mul fl pf valid line M hM1 hM)
    (Nat.mul_le_mul_right M (samples_per_line_bounded fl pf valid line))

/-- the same in the weaker form `(n + 1) × M` -/
theorem events_per_line_bounded_partial' (M : Nat) (hM1 : 1 ≤ M) (pf : Pf V)
    (hM : ∀ b : Bytes, (NumOps.recipInt (if NumOps.isZero (pf b).1 then NumOps.one else (pf b).1)).toNat ≤ M)
    (fl : ParserFlags) (valid : Bool) (line : Bytes) :
    (lineToEvents fl pf valid line).events.length ≤ (line.length + 1) * M :=
  Nat.le_trans (events_per_line_bounded_partial M hM1 pf hM fl valid line)
    (Nat.mul_le_mul_right M (Nat.le_succ _))

/-- The error counter `sampleErrors` obeys the same kind of bound: a sample adds at most `M` `illegal_event`
    increments plus one per `|`-component (at most two), a line without samples at most one. -/
theorem errors_per_line_bounded_partial (M : Nat) (hM1 : 1 ≤ M) (pf : Pf V)
    (hM : ∀ b : Bytes, (NumOps.recipInt (if NumOps.isZero (pf b).1 then NumOps.one else (pf b).1)).toNat ≤ M)
    (fl : ParserFlags) (valid : Bool) (line : Bytes) :
    (lineToEvents fl pf valid line).errs.length ≤ line.length * (M + 2) := by
  cases line with
  | nil => exact Nat.zero_le _  -- the empty line is dropped without an error
  | cons b bs =>
    have h1 := errs_le_samples_mul fl pf valid (b :: bs) M hM1 hM
    have h2 := Nat.mul_le_mul_right (M + 2) (samples_lt_length fl pf valid (b :: bs) (List.cons_ne_nil b bs))
    rw [Nat.succ_mul] at h2
    omega

/-- **Rate-free traffic does not amplify.** If no rate the float parser returns has `int(1/rate) > 1` (in
    particular for rates ≥ 1, where `int(1/rate)` is 0 or 1), a line produces at most as many events as it has
    bytes. -/
theorem events_per_line_bounded_rate_free (pf : Pf V)
    (h1 : ∀ b : Bytes, (NumOps.recipInt (if NumOps.isZero (pf b).1 then NumOps.one else (pf b).1)).toNat ≤ 1)
    (fl : ParserFlags) (valid : Bool) (line : Bytes) :
    (lineToEvents fl pf valid line).events.length ≤ line.length := by
  have := events_per_line_bounded_partial 1 (Nat.le_refl 1) pf h1 fl valid line
  rwa [Nat.mul_one] at this

/-- Hence: whenever `int(1/x)` is bounded over the non-zero values of the number type, the linear-work claim
    `events_per_line_bounded_statement` holds (converse of `events_per_line_unbounded_of`). -/
theorem events_per_line_bounded_of (N : Nat)
    (hrecip : ∀ sf : V, NumOps.isZero sf = false → (NumOps.recipInt sf).toNat ≤ N) :
    events_per_line_bounded_statement V := by
  refine ⟨N + (NumOps.recipInt (NumOps.one : V)).toNat + 1, fun fl pf line => ?_⟩
  rw [Nat.mul_comm]
  refine events_per_line_bounded_partial _ (Nat.le_add_left 1 _) pf (fun b => ?_) fl true line
  cases hz : NumOps.isZero (pf b).1
  · have := hrecip _ hz
    rw [if_neg Bool.false_ne_true]
    omega
  · rw [if_pos rfl]
    omega

/-- **The sampling multiplicity is the only source of unboundedness**: for every number type, the number of
    events per line is linear in the line length iff `int(1/x)` is bounded over the non-zero values. -/
theorem events_per_line_bounded_iff :
    events_per_line_bounded_statement V ↔
      ∃ N : Nat, ∀ sf : V, NumOps.isZero sf = false → (NumOps.recipInt sf).toNat ≤ N := by
  constructor
  · intro hb
    apply Classical.byContradiction
    intro hne
    refine events_per_line_unbounded_of (fun N => ?_) hb
    apply Classical.byContradiction
    intro hno
    exact hne ⟨N, fun sf hz => Nat.le_of_not_lt fun hlt => hno ⟨sf, hz, Nat.le_of_lt hlt⟩⟩
  · rintro ⟨N, hN⟩
    exact events_per_line_bounded_of N hN

/-- the toy number type as it stands (`int(1/x)` is integer division `1 / x ∈ {-1, 0, 1}`) does satisfy the
    linear-work claim: the refutation above needs a number type with unbounded `int(1/x)` -/
theorem events_per_line_bounded_toy : @events_per_line_bounded_statement Int toyNumOps := by
  letI := toyNumOps
  apply events_per_line_bounded_of 1
  intro sf _
  show ((1 : Int) / sf).toNat ≤ 1
  have := Int.ediv_le_self sf (show (0 : Int) ≤ 1 by decide)
  omega

/-! ### Non-vacuity -/

section examples
attribute [local instance] toyNumOps

/-- no rules; observers default to histograms with buckets 1 < 2 -/
private def cfg0 : Config Int :=
  { rules := [], dObserverType := .histogram, dTtl := 0, dBuckets := [1, 2], dQuantiles := [], dMaxAge := 0,
    dAgeBuckets := 0, dBufCap := 0, orderingDisabled := false, doFSM := false }
private def p0 : Pipe Int := { mapper := MState.fresh cfg0 }
private def noRx : Rx := fun _ _ => none
private def fl0 : ParserFlags := ⟨true, true, true, true⟩
/-- a stand-in for ParseFloat: every value string is 1 -/
private def pf1 : Pf Int := fun _ => (1, .ok)

/-- the hypotheses of `packet_total` are satisfiable -/
example : ConfigSafe cfg0 ∧ VecsSafe p0.reg :=
  ⟨⟨fun _ h => (by cases h), by
      show (if ObsTy.histogram = ObsTy.histogram then _ else _)
      rw [if_pos rfl]; decide⟩, VecsSafe_empty []⟩

/-- a garbage line (`\xff|:|@#`) is processed to the same state; a timer line creates one histogram series -/
example : handleEvents p0 noRx (lineToEvents fl0 pf1 true [0xff, 124, 58, 124, 64, 35]).labels
    (lineToEvents fl0 pf1 true [0xff, 124, 58, 124, 64, 35]).events = some (.ok p0) :=
  eventless_line_is_noop p0 noRx fl0 pf1 true _ (List.eq_nil_of_length_eq_zero (by with_unfolding_all decide))

example : (match handleEvents p0 noRx (lineToEvents fl0 pf1 true (strBytes "a:1|ms")).labels
    (lineToEvents fl0 pf1 true (strBytes "a:1|ms")).events with
    | some (.ok p) => p.reg.type? [97] | _ => none) = some .histogram := by
  decide +kernel

/-- the amplification, concretely: rate "r" parsed as 50 (toy: `recipInt = id`) gives 50 events -/
example : (@lineToEvents Int toyRecipId fl0 (fun _ => (50, .ok)) true amplLine).events.length = 50 := by
  decide +kernel

/-- a stand-in for ParseFloat: every value and every rate is 3 -/
private def pf3 : Pf Int := fun _ => (3, .ok)

/-- the partial bound, concretely (toy: `recipInt = id`, every rate parsed as 3, so `M = 3` works): the
    17-byte line `a:1|ms|@r:2|ms|@r` has two samples and 6 = 2 × 3 events — the per-sample bound is attained —
    and `events_per_line_bounded_partial` bounds them by 17 × 3 -/
example : (@lineToEvents Int toyRecipId fl0 pf3 true (strBytes "a:1|ms|@r:2|ms|@r")).samples = 2 ∧
    (@lineToEvents Int toyRecipId fl0 pf3 true (strBytes "a:1|ms|@r:2|ms|@r")).events.length = 6 := by
  decide +kernel

example : (@lineToEvents Int toyRecipId fl0 pf3 true (strBytes "a:1|ms|@r:2|ms|@r")).events.length ≤ 17 * 3 :=
  -- the length evaluated by the kernel: left to the unifier it costs more than the rest of the example
  (show (strBytes "a:1|ms|@r:2|ms|@r").length = 17 by decide +kernel) ▸
    @events_per_line_bounded_partial Int toyRecipId 3 (by decide) pf3 (fun _ => show (3 : Int).toNat ≤ 3 by decide) fl0 true
      (strBytes "a:1|ms|@r:2|ms|@r")

/-- with the plain toy number type (`int(1/3) = 0`, and `int(1/1) = 1` without a rate) `M = 1` works for every
    float parser: the rate-free corollary applies -/
example (pf : Pf Int) (line : Bytes) : (lineToEvents fl0 pf true line).events.length ≤ line.length :=
  events_per_line_bounded_rate_free pf (fun b => by
    show ((1 : Int) / (if ((pf b).1 == 0) = true then 1 else (pf b).1)).toNat ≤ 1
    have := Int.ediv_le_self (if ((pf b).1 == 0) = true then 1 else (pf b).1) (show (0 : Int) ≤ 1 by decide)
    omega) fl0 true line

end examples

end SE.Props.C02
