import SE.Proofs.Cache
/-
C13 — The mapping cache is invisible.
For any configuration and any sequence of lookups and reloads, lookups answered with a mapping
cache of any kind (none / LRU / random replacement), any size and any eviction behaviour return
the same answer (`Option Mapped`: rule, expanded name, labels; `none` = not matched) as lookups
with no cache at all; a name cached as one metric type never answers for another type; nothing
cached under a previous configuration is returned after a reload.

Vocabulary (SE/Spec/History.lean): `Op` = one `GetMapping` call (with the eviction-oracle value a
random-replacement `Add` would consume) or the outcome of one config (re)load; `runCached` /
`runPlain` = the answers of the cached mapper / of the bare mapper object over a history. The
regex oracle `rx` (what Go's `regexp` answers) is arbitrary but fixed over a history.

Sizes: the theorems hold for every `size` of the model, but only a size ≥ 1 stands for a cache the
exporter can have: for `size <= 0` `NewMetricMapperLRUCache` and `NewMetricMapperRRCache` return nil
(no cache, kind 0). At size 0 the model's LRU evicts every new entry at once, whereas groupcache's
`MaxEntries == 0` means "no limit": about that combination nothing is claimed.
-/
namespace SE.Props.C13
open SE
variable {V : Type}

/-- The string key `type + "." + name` determines the pair (type, name): the three type strings
    contain no `.`, so the first `.` separates them from the name. This justifies modelling cache
    keys as pairs. (`k.1 < 3`: the three metric types counter/gauge/observer.) -/
theorem formatKey_injective (k1 k2 : CKey) (h : formatKey k1 = formatKey k2) (h1 : k1.1 < 3) (h2 : k2.1 < 3) :
    k1 = k2 := by
  rw [formatKey_eq, formatKey_eq] at h
  obtain ⟨ht, hn⟩ := append_sep_inj (tyStr_table _ h1).1 (tyStr_table _ h2).1 h
  exact Prod.ext ((tyStr_table _ h1).2 _ h2 ht) hn

/-- An empty cache (of any kind and size) is sound. -/
theorem empty_cache_sound (rx : Rx) (st : MState V) (kind size : Nat) :
    CacheSound rx { st := st, cache := { kind := kind, size := size, items := [] } } :=
  cacheSound_of_empty rx _ rfl

/-- `Get` returns only what is stored: a hit for `k` is the value of an entry with exactly key `k`. -/
theorem get_returns_stored {A : Type} (c : Cache A) (k : CKey) (a : A) (h : (c.get k).2 = some a) :
    (k, a) ∈ c.items :=
  (Cache.get_some h).2

/-- `Get` changes neither kind nor size and invents no entry (LRU: move-to-front; others: unchanged). -/
theorem get_keeps_entries {A : Type} (c : Cache A) (k : CKey) :
    (c.get k).1.kind = c.kind ∧ (c.get k).1.size = c.size ∧ ∀ x, x ∈ (c.get k).1.items → x ∈ c.items :=
  ⟨Cache.get_kind c k, Cache.get_size c k, Cache.get_items_sub c k⟩

/-- With unique keys (which `Cache.WF` maintains) `Get` is a pure reordering of the entries. -/
theorem get_is_reordering {A : Type} (c : Cache A) (k : CKey) (h : c.WF) : (c.get k).1.items.Perm c.items :=
  Cache.get_items_perm c k h.nodup

/-- `Add` stores at most the new entry; whatever else is in the cache afterwards was there before —
    for every kind, size and eviction choice of the model. -/
theorem add_stores_only_new {A : Type} (c : Cache A) (k : CKey) (a : A) (choice : Nat) :
    ∀ x, x ∈ (c.add k a choice).items → x = (k, a) ∨ x ∈ c.items :=
  Cache.add_items_sub c k a choice

/-- Keys stay unique and a real cache never holds more than `size` entries, through `Get`, `Add`
    (any eviction choice) and `Reset`. -/
theorem wf_preserved {A : Type} (c : Cache A) (k : CKey) (a : A) (choice : Nat) (h : c.WF) :
    (c.get k).1.WF ∧ (c.add k a choice).WF ∧ c.reset.WF :=
  ⟨Cache.get_wf c k h, Cache.add_wf c k a choice h, Cache.reset_wf c⟩

/-- The cache law (DESIGN: `lru_lawful`, `rr_lawful`), one step at a time, for both real cache kinds,
    every size and every eviction choice of the model: right after `Add(k, a)` a hit on `k` returns `a`, never an
    older value; a hit on another key returns what a hit on it would have returned before the `Add`;
    `Get` does not change what any later `Get` can return; after `Reset` nothing hits.
    (A miss is always possible: that is eviction.) -/
theorem cache_law {A : Type} (c : Cache A) (h : c.WF) (k k' : CKey) (a v : A) (choice : Nat) :
    (((c.add k a choice).get k).2 = some v → v = a) ∧
    (k' ≠ k → ((c.add k a choice).get k').2 = some v → (c.get k').2 = some v) ∧
    (((c.get k).1.get k').2 = some v → (c.get k').2 = some v) ∧
    (c.reset.get k).2 = none := by
  -- a hit in a cache of `c`'s kind: the kind is a real one, and the value is stored under the key
  have stored {c' : Cache A} {k₀ : CKey} (e : c'.kind = c.kind) (hg : (c'.get k₀).2 = some v) :
      c.kind ≠ 0 ∧ (k₀, v) ∈ c'.items :=
    e ▸ Cache.get_some hg
  refine ⟨fun hg => ?_, fun hne hg => ?_, fun hg => ?_, ?_⟩
  · obtain ⟨hk, hm⟩ := stored (c.add_kind k a choice) hg
    exact Cache.add_items_key c k a v choice hk hm
  · obtain ⟨hk, hm⟩ := stored (c.add_kind k a choice) hg
    -- not the new entry, so an old one; with unique keys every stored entry is hit
    exact Cache.get_of_mem h.nodup hk
      ((Cache.add_items_sub c k a choice _ hm).resolve_left fun e => hne (Prod.mk.inj e).1)
  · obtain ⟨hk, hm⟩ := stored (c.get_kind k) hg
    exact Cache.get_of_mem h.nodup hk (Cache.get_items_sub c k _ hm)
  · exact Option.eq_none_iff_forall_ne_some.mpr fun v' hg => List.not_mem_nil (Cache.get_some hg).2

/-- One cached `GetMapping` on a sound cached mapper: it answers exactly like the bare mapper
    object, does not touch the mapper object, and leaves the cache sound. -/
theorem lookup_sound (rx : Rx) (m : CachedMapper V) (name : Bytes) (ty choice : Nat) (h : CacheSound rx m) :
    (m.lookup rx name ty choice).2 = m.st.lookup rx name ty ∧
    (m.lookup rx name ty choice).1.st = m.st ∧
    CacheSound rx (m.lookup rx name ty choice).1 :=
  cached_lookup_spec rx m name ty choice h

/-- A reload keeps the cache sound: a successful one resets it (sound for the new mapper object),
    a failing one changes nothing. -/
theorem reload_sound (rx : Rx) (m : CachedMapper V) (l : Except LoadErr (Config V)) (h : CacheSound rx m) :
    CacheSound rx (m.reload l) :=
  cacheSound_reload rx m l h

/-- **The cache is invisible.** From a sound state, every history of lookups and reloads gets the
    same answers with the cache as without. -/
theorem cache_invisible (rx : Rx) (m : CachedMapper V) (st : MState V) (ops : List (Op V))
    (hs : CacheSound rx m) (hst : m.st = st) : runCached rx m ops = runPlain rx st ops := by
  subst hst; exact runCached_eq_runPlain rx ops m hs

/-- Corollary: a newly built mapper with an empty cache of any kind and any size, for every
    configuration, history, regex oracle and eviction oracle (the `choice`s inside `ops`). -/
theorem cache_invisible_fresh (rx : Rx) (n : Config V) (kind size : Nat) (ops : List (Op V)) :
    runCached rx (CachedMapper.fresh n kind size) ops = runPlain rx (MState.fresh n) ops :=
  cache_invisible rx _ _ ops (cacheSound_of_empty rx _ rfl) rfl

/-- Two cached mappers over the same mapper object — different cache kinds, sizes, contents and
    eviction oracles — give the same answers. -/
theorem cache_invisible_across_kinds (rx : Rx) (m1 m2 : CachedMapper V) (ops1 ops2 : List (Op V))
    (h1 : CacheSound rx m1) (h2 : CacheSound rx m2) (hst : m1.st = m2.st) (hops : sameUpToChoices ops1 ops2) :
    runCached rx m1 ops1 = runCached rx m2 ops2 := by
  rw [cache_invisible rx m1 _ ops1 h1 rfl, cache_invisible rx m2 _ ops2 h2 rfl, hst]
  exact runPlain_choice_irrelevant rx ops1 ops2 _ hops

/-- No cross-type answers: a hit for the key (ty, name) is the mapper's answer for exactly that
    type and that name (keys are pairs, see `formatKey_injective`). -/
theorem no_cross_type (rx : Rx) (m : CachedMapper V) (name : Bytes) (ty : Nat) (r : Option Mapped)
    (hs : CacheSound rx m) (hit : (m.cache.get (ty, name)).2 = some r) :
    r = m.st.lookup rx name ty :=
  hs (Cache.get_some hit).1 (ty, name) r (Cache.get_some hit).2

/-- Nothing cached under a previous configuration survives a successful reload: the cache is
    empty afterwards, whatever it contained (soundness of the old contents is not even needed),
    and every later answer is that of the cache-less mapper after the same swap. -/
theorem nothing_survives_reload (rx : Rx) (m : CachedMapper V) (n : Config V) (ops : List (Op V)) :
    (m.reload (.ok n)).cache.items = [] ∧
    runCached rx (m.reload (.ok n)) ops = runPlain rx (m.st.swap n) ops :=
  ⟨rfl, cache_invisible rx _ _ ops (cacheSound_of_empty rx _ rfl) rfl⟩

/- Non-vacuity: a full LRU evicts its oldest entry, a hit moves to the front, RR evicts the chosen index. -/
example : ((⟨1, 2, [((0, [1]), 7), ((0, [2]), 8)]⟩ : Cache Nat).add (0, [3]) 9 0).items
    = [((0, [3]), 9), ((0, [1]), 7)] := by decide +kernel
example : let r := (⟨1, 2, [((0, [1]), 7), ((0, [2]), 8)]⟩ : Cache Nat).get (0, [2])
    r.1.items = [((0, [2]), 8), ((0, [1]), 7)] ∧ r.2 = some 8 := by decide +kernel
example : ((⟨2, 2, [((0, [1]), 7), ((0, [2]), 8)]⟩ : Cache Nat).add (0, [3]) 9 1).items
    = [((0, [3]), 9), ((0, [2]), 8)] := by decide +kernel
example : ((⟨1, 2, [((0, [1]), 7)]⟩ : Cache Nat).get (1, [1])).2 = none := by decide +kernel   -- other type: miss
example : formatKey (1, [97]) = [103, 97, 117, 103, 101, 46, 97] := by decide +kernel  -- "gauge.a"

/- A whole history on a concrete configuration (one glob rule `a.*`), LRU of size 1: a miss that is
   cached, a hit, an eviction by a second key, a cached negative answer and its hit, a failing and a
   successful reload (to a configuration without rules) after which the old answer is gone. -/
private def mkRule (pat : Pat) : Rule Nat :=
  { matchStr := [], name := [120], labels := [], honorLabels := false, observerType := .dflt,
    matchType := .glob, help := [], action := .map, matchMetricType := none, ttl := 0, scale := none,
    buckets := [], hasHistOpts := false, quantiles := [], hasSummaryOpts := false, maxAge := 0,
    ageBuckets := 0, bufCap := 0, pat := pat, captureCount := countStars pat }
private def mkCfg (rules : List (Rule Nat)) (doFSM : Bool) : Config Nat :=
  { rules := rules, dObserverType := .dflt, dTtl := 0, dBuckets := [], dQuantiles := [], dMaxAge := 0,
    dAgeBuckets := 0, dBufCap := 0, orderingDisabled := false, doFSM := doFSM }
private def cfg1 : Config Nat := mkCfg [mkRule [[97], [42]]] true
private def cfg0 : Config Nat := mkCfg [] false
private def noRx : Rx := fun _ _ => none
private def history : List (Op Nat) :=
  [.get [97, 46, 98] 0 0, .get [97, 46, 98] 0 0, .get [99] 0 0, .get [99] 0 0, .get [97, 46, 98] 0 0,
   .reload (.error .badName), .get [97, 46, 98] 0 0, .reload (.ok cfg0), .get [97, 46, 98] 0 0]

example : runCached noRx (CachedMapper.fresh cfg1 1 1) history
    = [some ⟨0, some [120], []⟩, some ⟨0, some [120], []⟩, none, none, some ⟨0, some [120], []⟩,
       some ⟨0, some [120], []⟩, none] := by decide +kernel
example : runPlain noRx (MState.fresh cfg1) history
    = runCached noRx (CachedMapper.fresh cfg1 2 1) history := by decide +kernel
-- the cache really is in play: after the first two lookups the LRU holds the entry, after the third the other one
example : ((CachedMapper.fresh cfg1 1 1).lookup noRx [97, 46, 98] 0 0).1.cache.items
    = [((0, [97, 46, 98]), some ⟨0, some [120], []⟩)] := by decide +kernel
example : ((((CachedMapper.fresh cfg1 1 1).lookup noRx [97, 46, 98] 0 0).1).lookup noRx [99] 0 0).1.cache.items
    = [((0, [99]), none)] := by decide +kernel

end SE.Props.C13
