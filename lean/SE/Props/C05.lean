import SE.Proofs.Hash
import SE.Proofs.HashFnv
import SE.Proofs.SafetyFrame
/-
C05 — Labels come only from the event's own tags and its own rule.
The series an event is applied to is addressed by the sorted form of one label map: the line's tags
with the matched rule's (template-expanded) labels merged in — rule labels override tags unless the
rule says `honor_labels` and the tag exists — or the tags alone for an unmapped event. That map is a
function of the event's own tags and the mapper's answer for the event's own name; it does not depend
on the registry, the clock, the counters, or on any event processed before.

Vocabulary: `Labels` = association list (a Go `map[string]string`), `get?`/`has`/`set` its lookup, key
test and assignment; `keysOf L` = the keys in order. `evTarget p rx ev tags = some (c, pl)`: the event
reaches the registry with request `pl = (type, GetArgs, update)` (see SE/Props/C07.lean).
`Mapped` = the mapper's answer (rule index, expanded name, expanded labels); `mappedLabels m` = its
label list with the (modelled) template results filled in.
-/
namespace SE.Props.C05
open SE
variable {V : Type} [NumOps V]

/-- The label map the exporter is specified to use, given the mapper's answer, the rule and the tags. -/
def specLabels (found : Option Mapped) (rule : Option (Rule V)) (tags : Labels) : Labels :=
  match found, rule with
  | some m, some r => mergeLabels tags (mappedLabels m) r.honorLabels
  | _, _ => tags

/-- **The merge, key by key.** For rule labels with pairwise distinct keys: a key that the line tagged
    keeps the tag's value if `honor_labels` is set; otherwise the rule's value wins if the rule has the
    key; otherwise the tag's value (or absence) stands. -/
theorem mergeLabels_spec (tags : Labels) (rl : List (Bytes × Bytes)) (honor : Bool) (k : Bytes)
    (hd : (keysOf rl).Nodup) :
    (mergeLabels tags rl honor).get? k =
      if honor = true ∧ tags.has k = true then tags.get? k else
      match Labels.get? rl k with
      | some v => some v
      | none => tags.get? k := by
  rw [← lastGet_eq_get? rl hd]
  exact mergeLabels_get? tags rl honor k tags

/-- Without the distinctness assumption the last rule label with that key wins (`lastGet`). -/
theorem mergeLabels_spec_general (tags : Labels) (rl : List (Bytes × Bytes)) (honor : Bool) (k : Bytes) :
    (mergeLabels tags rl honor).get? k =
      if honor = true ∧ tags.has k = true then tags.get? k else
      match lastGet rl k with
      | some v => some v
      | none => tags.get? k :=
  mergeLabels_get? tags rl honor k tags

/-- **Nothing else gets in**: every (key, value) pair of the merged map is a pair of the tags or a pair of
    the rule's labels. -/
theorem merged_pairs_origin (tags : Labels) (rl : List (Bytes × Bytes)) (honor : Bool) (x : Bytes × Bytes)
    (h : x ∈ mergeLabels tags rl honor) : x ∈ tags ∨ x ∈ rl := by
  refine mergeLabels_induction (P := fun acc => x ∈ acc → x ∈ tags ∨ x ∈ rl) tags rl honor Or.inl (fun acc kv hkv ih hx => ?_) h
  rcases Labels.mem_set acc kv.1 kv.2 x hx with h' | h'
  · exact ih h'
  · exact Or.inr (h' ▸ hkv)

/-- The merge keeps keys pairwise distinct (it is a map). -/
theorem merged_keys_distinct (tags : Labels) (rl : List (Bytes × Bytes)) (honor : Bool)
    (ht : (keysOf tags).Nodup) : (keysOf (mergeLabels tags rl honor)).Nodup :=
  mergeLabels_induction (P := fun acc => (keysOf acc).Nodup) tags rl honor ht fun acc _ _ h => Labels.nodup_keys_set acc _ _ h

/-- Sorting (`sort.Strings(labelNames)`) only reorders: same pairs, and — for a map — same lookups. -/
theorem sorted_same_pairs (l : Labels) :
    l.sorted.Perm l ∧ (∀ x, x ∈ l.sorted ↔ x ∈ l) ∧
    ((keysOf l).Nodup → ∀ k, l.sorted.get? k = l.get? k) :=
  ⟨sorted_perm l, mem_sorted l, Labels.get?_perm (sorted_perm l)⟩

/-- **The series an applied event touches is addressed by exactly the specified labels.**
    When `handleEvent` applies an event, the registry request it made carries
    `labels = (specLabels found rule tags).sorted` where `found` is the mapper's answer for this event's
    name and kind and `rule` the rule it points to; the series with that name and those labels exists
    afterwards, and no series with another name or other labels is touched. -/
theorem series_labels_eq_spec (p p' : Pipe V) (rx : Rx) (ev : Ev V) (tags : Labels)
    (h : handleEvent p rx ev tags = some (.ok p')) (ha : p'.counts.applied = p.counts.applied + 1) :
    ∃ c pl, evTarget p rx ev tags = some (c, pl) ∧
      pl.2.1.labels =
        (specLabels (p.mapper.lookup rx ev.name (kindIdx ev.kind))
          ((p.mapper.lookup rx ev.name (kindIdx ev.kind)).bind fun m => p.mapper.cfg.rules[m.ruleIdx]?) tags).sorted ∧
      (∃ s, p'.reg.series? pl.2.1.name pl.2.1.labels = some s ∧ s.labels = pl.2.1.labels) ∧
      (∀ name labels, ¬(name = pl.2.1.name ∧ labels = pl.2.1.labels) →
        p'.reg.series? name labels = p.reg.series? name labels) := by
  obtain ⟨c, pl, reg, ht, hg, e⟩ := handleEvent_applied h ha
  subst e
  obtain ⟨s, hs, _, _, hl⟩ := applied_addressed ht hg
  exact ⟨c, pl, ht, (evTarget_args ht).1, ⟨_, hs, hl⟩,
    fun name labels hne => applied_series_frame ht hg name labels hne⟩

/-- For an unmapped event the labels are the tags, sorted. -/
theorem unmapped_labels_are_tags (p : Pipe V) (rx : Rx) (ev : Ev V) (tags : Labels) (c : Counts) (pl : Plan V)
    (ht : evTarget p rx ev tags = some (c, pl)) (hn : p.mapper.lookup rx ev.name (kindIdx ev.kind) = none) :
    pl.2.1.labels = tags.sorted := by
  rw [(evTarget_args ht).1]
  unfold evLabels evFound
  rw [hn]

/-- For a mapped event, label by label (tags a map, rule labels with distinct keys): the value the
    addressed series carries for key `k` is the tag's if `honor_labels` and the line tagged `k`;
    else the rule's expanded label `k` if the rule has one; else the tag's (or none). -/
theorem mapped_label_values (p : Pipe V) (rx : Rx) (ev : Ev V) (tags : Labels) (c : Counts) (pl : Plan V)
    (m : Mapped) (rule : Rule V)
    (ht : evTarget p rx ev tags = some (c, pl))
    (hf : p.mapper.lookup rx ev.name (kindIdx ev.kind) = some m) (hr : p.mapper.cfg.rules[m.ruleIdx]? = some rule)
    (htags : (keysOf tags).Nodup) (hrl : (keysOf (mappedLabels m)).Nodup) (k : Bytes) :
    pl.2.1.labels.get? k =
      if rule.honorLabels = true ∧ tags.has k = true then tags.get? k else
      match Labels.get? (mappedLabels m) k with
      | some v => some v
      | none => tags.get? k := by
  have hl : evLabels p rx ev tags = mergeLabels tags (mappedLabels m) rule.honorLabels := by
    unfold evLabels evRule evFound
    rw [hf]
    simp only [Option.bind_some, hr]
  rw [(evTarget_args ht).1, hl, Labels.get?_perm (sorted_perm _) (merged_keys_distinct tags _ _ htags)]
  exact mergeLabels_spec tags _ _ k hrl

/-- **Frame / no leak.** The registry request of an event — metric type, name, labels, help, ttl, options,
    update — is a function of the mapper, the regex oracle, the event and its line's tags only: two
    pipeline states with the same mapper (any registries, clocks, counters) produce the same request. -/
theorem labels_frame (p q : Pipe V) (hm : p.mapper = q.mapper) (rx : Rx) (ev : Ev V) (tags : Labels) :
    (evTarget p rx ev tags).map (·.2) = (evTarget q rx ev tags).map (·.2) :=
  evTarget_congr p q hm rx ev tags

/-- In particular processing event A first does not change the labels (or anything else of the request)
    used for event B: B gets the same request as if it had been processed alone. -/
theorem no_leak_between_events (p pA : Pipe V) (rx : Rx) (evA evB : Ev V) (tagsA tagsB : Labels)
    (hA : handleEvent p rx evA tagsA = some (.ok pA)) :
    (evTarget pA rx evB tagsB).map (·.2) = (evTarget p rx evB tagsB).map (·.2) :=
  evTarget_congr pA p (handleEvent_keeps hA).1 rx evB tagsB

/-- … and across a whole line: after any prefix of the line's events the request for the next event is
    the one it would get alone. -/
theorem no_leak_within_line (rx : Rx) (tags : Labels) (evs : List (Ev V)) :
    ∀ (p p' : Pipe V), handleEvents p rx tags evs = some (.ok p') → ∀ (evB : Ev V) (tagsB : Labels),
      (evTarget p' rx evB tagsB).map (·.2) = (evTarget p rx evB tagsB).map (·.2) := by
  intro p p' h evB tagsB
  exact evTarget_congr p' p (handleEvents_frame _ h).1 rx evB tagsB

/-! ### Non-vacuity -/

-- tags {a=1, b=2}, rule labels {b=9, c=3}
private def tags0 : Labels := [([97], [49]), ([98], [50])]
private def rl0 : List (Bytes × Bytes) := [([98], [57]), ([99], [51])]

-- without honor_labels the rule overrides b and adds c
example : mergeLabels tags0 rl0 false = [([97], [49]), ([98], [57]), ([99], [51])] := by decide +kernel
-- with honor_labels the tagged b survives, c is still added
example : mergeLabels tags0 rl0 true = [([97], [49]), ([98], [50]), ([99], [51])] := by decide +kernel
example : (mergeLabels [([99], [49]), ([97], [50])] [] false).sorted = [([97], [50]), ([99], [49])] := by decide +kernel

/-! ### The registry's label-hash inputs are injective

`Registry.HashLabels` (SE/Model/Hash.lean) feeds FNV-64a with `namesHashInput l` (every sorted label
name followed by the separator byte 0xFF) for the vector, and with `valuesHashInput l` (the same,
then 0xFF, then every value in name order followed by 0xFF) for the series. The models identify
vectors by the sorted label names and series by the sorted label list; that is sound iff these byte
strings determine them. They do, for labels without the byte 0xFF (`NoSep`: every label the line parser
produces, because lines are valid UTF-8 and 0xFF occurs in no UTF-8 sequence). Non-emptiness of the
label names is NOT needed: the boundary between names and values in the values input is fixed by
there being as many values as names. What remains assumed is that FNV-64a itself does not collide. -/

/-- equal names-hash inputs ⇒ the same sorted label names -/
theorem names_hash_input_injective (a b : Labels) (ha : NoSep a) (hb : NoSep b) :
    namesHashInput a = namesHashInput b → a.sorted.map (·.1) = b.sorted.map (·.1) := by
  intro h
  rw [namesHashInput_eq, namesHashInput_eq] at h
  exact flatMap_sep_injective sepByte _ _ h (fun x hx => ha.pieces x (List.mem_append_left _ hx))
    fun x hx => hb.pieces x (List.mem_append_left _ hx)

/-- equal values-hash inputs ⇒ the same sorted label list (names and values) -/
theorem values_hash_input_injective (a b : Labels) (ha : NoSep a) (hb : NoSep b) :
    valuesHashInput a = valuesHashInput b → a.sorted = b.sorted := by
  intro h
  rw [valuesHashInput_eq, valuesHashInput_eq] at h
  have hpieces := flatMap_sep_injective sepByte _ _ h ha.pieces hb.pieces
  -- there are as many values as names on either side, so the piece lists split at the same place
  have hlen : (a.sorted.map (·.1)).length = (b.sorted.map (·.1)).length := by
    have := congrArg List.length hpieces
    simp only [List.length_append, List.length_cons, List.length_map] at this ⊢
    omega
  obtain ⟨hn, hv⟩ := List.append_inj hpieces hlen
  exact eq_of_map_fst_snd _ _ hn (List.cons.inj hv).2

/-- the converses hold without any hypothesis … -/
theorem names_hash_input_congr (a b : Labels) :
    a.sorted.map (·.1) = b.sorted.map (·.1) → namesHashInput a = namesHashInput b := by
  intro h
  rw [namesHashInput_eq, namesHashInput_eq, h]

theorem values_hash_input_congr (a b : Labels) :
    a.sorted = b.sorted → valuesHashInput a = valuesHashInput b := by
  intro h
  unfold valuesHashInput nameBuf valueBuf; rw [h]

/-- … so the names hash input identifies exactly the sorted label names, -/
theorem names_hash_input_iff (a b : Labels) (ha : NoSep a) (hb : NoSep b) :
    namesHashInput a = namesHashInput b ↔ a.sorted.map (·.1) = b.sorted.map (·.1) :=
  ⟨names_hash_input_injective a b ha hb, names_hash_input_congr a b⟩

/-- and the values hash input exactly the sorted label list. -/
theorem values_hash_input_iff (a b : Labels) (ha : NoSep a) (hb : NoSep b) :
    valuesHashInput a = valuesHashInput b ↔ a.sorted = b.sorted :=
  ⟨values_hash_input_injective a b ha hb, values_hash_input_congr a b⟩

/-! ### The hash function itself (FNV-64a, `hash/fnv`)

The registry keys vectors by `namesHash` and series by `valuesHash` (SE/Model/Hash.lean; both are compared
bit for bit with `Registry.HashLabels` by the `hashlabels` stream). A 64-bit hash cannot be injective, so
"two label sets never share a series" is not a theorem; what is: the hashes are functions of the sorted
label list (no dependence on map order, on the registry or on earlier calls - the hasher is reset); the
values hash continues the names hash; every FNV step is a bijection of the state, so a common suffix
neither creates nor hides a collision; and inputs that differ in exactly one byte never collide - in
particular two label sets with the same names that differ in one byte of one value are always kept apart. -/

/-- the two hashes are FNV-64a of the two modelled inputs (the hasher is not reset between them) -/
theorem hashes_are_fnv_of_inputs (l : Labels) :
    namesHash l = fnv64a (namesHashInput l) ∧ valuesHash l = fnv64a (valuesHashInput l) :=
  ⟨namesHash_eq l, valuesHash_eq l⟩

/-- label maps with the same sorted form (the same Go map, whatever its iteration order) get the same hashes -/
theorem hashes_depend_on_sorted_form_only (a b : Labels) (h : a.sorted = b.sorted) :
    namesHash a = namesHash b ∧ valuesHash a = valuesHash b := by
  rw [namesHash_eq, namesHash_eq, valuesHash_eq, valuesHash_eq,
    values_hash_input_congr a b h, names_hash_input_congr a b (by rw [h])]
  exact ⟨rfl, rfl⟩

/-- one FNV step is injective in the state (a bijection of the 2^64 states: `fnv_step_invertible`) … -/
theorem fnv_step_state_injective (h1 h2 : BitVec 64) (c : UInt8) : fnvStep h1 c = fnvStep h2 c → h1 = h2 :=
  fnvStep_state_inj
theorem fnv_step_invertible (h : BitVec 64) (c : UInt8) : fnvStep (fnvUnstep h c) c = h := fnvStep_unstep h c
/-- … and in the byte -/
theorem fnv_step_byte_injective (h : BitVec 64) (a b : UInt8) : fnvStep h a = fnvStep h b → a = b :=
  fnvStep_byte_inj

/-- a common suffix neither creates nor hides a collision -/
theorem fnv_suffix_cancel (x y s : Bytes) : fnv64a (x ++ s) = fnv64a (y ++ s) ↔ fnv64a x = fnv64a y := by
  rw [fnv64a_append, fnv64a_append]
  exact ⟨fnvFrom_state_inj s, fun h => by rw [h]⟩

/-- inputs that differ in exactly one byte never collide -/
theorem fnv_one_byte_never_collides (p s : Bytes) (a b : UInt8) (hab : a ≠ b) :
    fnv64a (p ++ a :: s) ≠ fnv64a (p ++ b :: s) := fnvFrom_one_byte _ p s hab

/-- hence: two hash inputs that differ in exactly one byte address different series -/
theorem values_hash_one_byte_apart (l1 l2 : Labels) (p s : Bytes) (a b : UInt8) (hab : a ≠ b)
    (h1 : valuesHashInput l1 = p ++ a :: s) (h2 : valuesHashInput l2 = p ++ b :: s) :
    valuesHash l1 ≠ valuesHash l2 := by
  rw [valuesHash_eq, valuesHash_eq, h1, h2]; exact fnv_one_byte_never_collides p s a b hab

/-- instance: one label, values differing in one byte (`{k="…x…"}` vs `{k="…y…"}`) -/
theorem single_label_one_byte_apart (k pre suf : Bytes) (x y : UInt8) (hxy : x ≠ y) :
    valuesHash [(k, pre ++ x :: suf)] ≠ valuesHash [(k, pre ++ y :: suf)] := by
  apply values_hash_one_byte_apart _ _ (k ++ [sepByte] ++ [sepByte] ++ pre) (suf ++ [sepByte]) x y hxy <;>
    simp [valuesHashInput, nameBuf, valueBuf, Labels.sorted, insertSorted]

/-- the values hash is the names hash continued over `ValueBuf` -/
theorem values_hash_continues_names_hash (l : Labels) : valuesHash l = fnvFrom (namesHash l) (valueBuf l) := rfl

/-- label sets with the same names share a series iff their `ValueBuf`s collide from the SAME state:
    a collision is a property of the values alone given the names hash -/
theorem same_names_collision_iff (a b : Labels) (h : namesHash a = namesHash b) :
    valuesHash a = valuesHash b ↔ fnvFrom (namesHash a) (valueBuf a) = fnvFrom (namesHash a) (valueBuf b) := by
  rw [values_hash_continues_names_hash, values_hash_continues_names_hash, h]

/-- the vector key depends on the label NAMES only -/
theorem names_hash_depends_on_names_only (a b : Labels) (h : a.sorted.map (·.1) = b.sorted.map (·.1)) :
    namesHash a = namesHash b := by
  rw [namesHash_eq, namesHash_eq, names_hash_input_congr a b h]

/-- **What "hash collisions are assumed away" means, as a hypothesis**: the registry model identifies a series by its
    sorted label list; the code identifies it by `valuesHash`. For separator-free label sets the two coincide on every
    pair of label sets whose hash inputs do not collide under FNV-64a (`hinj`, the only assumption - an equation between
    two concrete 64-bit values, false for at most a 2^-64 fraction of pairs and refutable by evaluation for any given
    pair): the same series iff the same labels. -/
theorem same_series_iff_same_labels (a b : Labels) (ha : NoSep a) (hb : NoSep b)
    (hinj : fnv64a (valuesHashInput a) = fnv64a (valuesHashInput b) → valuesHashInput a = valuesHashInput b) :
    valuesHash a = valuesHash b ↔ a.sorted = b.sorted := by
  rw [valuesHash_eq, valuesHash_eq, ← values_hash_input_iff a b ha hb]
  exact ⟨hinj, congrArg fnv64a⟩

/-- the same for vectors: the same vector key iff the same label names, unless the two name inputs collide -/
theorem same_vector_iff_same_names (a b : Labels) (ha : NoSep a) (hb : NoSep b)
    (hinj : fnv64a (namesHashInput a) = fnv64a (namesHashInput b) → namesHashInput a = namesHashInput b) :
    namesHash a = namesHash b ↔ a.sorted.map (·.1) = b.sorted.map (·.1) := by
  rw [namesHash_eq, namesHash_eq, ← names_hash_input_iff a b ha hb]
  exact ⟨hinj, congrArg fnv64a⟩

-- known answers of FNV-64a (the published test vectors of hash/fnv: "", "a", "ab", "abc")
example : fnv64a [] = 0xcbf29ce484222325#64 ∧ fnv64a [97] = 0xaf63dc4c8601ec8c#64 ∧
    fnv64a [97, 98] = 0x089c4407b545986a#64 ∧ fnv64a [97, 98, 99] = 0xe71fa2190541574b#64 := by decide +kernel
-- {a="1"}: names hash of `a FF`, values hash of `a FF FF 1 FF`
example : namesHash [([97], [49])] = fnv64a [97, 255] ∧ valuesHash [([97], [49])] = fnv64a [97, 255, 255, 49, 255] := by
  decide +kernel

/-- the generic core: the separator encoding is injective on separator-free pieces -/
theorem sep_encoding_injective {α : Type} (sep : α) (xs ys : List (List α)) :
    xs.flatMap (· ++ [sep]) = ys.flatMap (· ++ [sep]) →
    (∀ x ∈ xs, sep ∉ x) → (∀ y ∈ ys, sep ∉ y) → xs = ys :=
  flatMap_sep_injective sep xs ys

/- Non-vacuity, and the hypotheses are needed. -/

-- {b="2", a="1"}: names input `a FF b FF`, values input `a FF b FF FF 1 FF 2 FF`
example : namesHashInput [([98], [50]), ([97], [49])] = [97, 255, 98, 255] ∧
    valuesHashInput [([98], [50]), ([97], [49])] = [97, 255, 98, 255, 255, 49, 255, 50, 255] ∧
    NoSep [([98], [50]), ([97], [49])] := by decide +kernel

-- WITHOUT `NoSep` injectivity fails: a value containing 0xFF shifts the boundary between two values
-- ({a="1\xFF2", b="3"} and {a="1", b="2\xFF3"} have the same values input) …
example :
    valuesHashInput [([97], [49, 255, 50]), ([98], [51])] = valuesHashInput [([97], [49]), ([98], [50, 255, 51])] ∧
    Labels.sorted [([97], [49, 255, 50]), ([98], [51])] ≠ Labels.sorted [([97], [49]), ([98], [50, 255, 51])] ∧
    ¬ NoSep [([97], [49, 255, 50]), ([98], [51])] := by decide +kernel

-- … and a name containing 0xFF makes one name look like two
example :
    namesHashInput [([97, 255, 98], [49])] = namesHashInput [([97], [49]), ([98], [50])] ∧
    (Labels.sorted [([97, 255, 98], [49])]).map (·.1) ≠ (Labels.sorted [([97], [49]), ([98], [50])]).map (·.1) := by
  decide +kernel

/- The seeded defect seeded/R05-agent2 (the separator written as a rune): if the separator is written as
   the two bytes C3 BF (the UTF-8 encoding of U+00FF) instead of the single byte FF, `NoSep` for that
   separator is not implied by UTF-8 validity — `ÿ` is a legal character in a tag value — and injectivity
   breaks for legal input: {a="xÿy", b="z"} and {a="x", b="yÿz"} get the same values hash, i.e. two
   different series are merged into one. -/
private def valuesInputWith (sep : Bytes) (l : Labels) : Bytes :=
  l.sorted.flatMap (fun kv => kv.1 ++ sep) ++ sep ++ l.sorted.flatMap (fun kv => kv.2 ++ sep)

example (l : Labels) : valuesInputWith [sepByte] l = valuesHashInput l := by
  simp [valuesInputWith, valuesHashInput, nameBuf, valueBuf]

example :
    valuesInputWith [0xC3, 0xBF] [([97], [120, 0xC3, 0xBF, 121]), ([98], [122])]
      = valuesInputWith [0xC3, 0xBF] [([97], [120]), ([98], [121, 0xC3, 0xBF, 122])] ∧
    NoSep [([97], [120, 0xC3, 0xBF, 121]), ([98], [122])] ∧ NoSep [([97], [120]), ([98], [121, 0xC3, 0xBF, 122])] ∧
    Labels.sorted [([97], [120, 0xC3, 0xBF, 121]), ([98], [122])]
      ≠ Labels.sorted [([97], [120]), ([98], [121, 0xC3, 0xBF, 122])] := by decide +kernel

end SE.Props.C05
