import SE.Proofs.Queue
import SE.Proofs.QueueDriver
/-
C16 — The event queue delivers every event exactly once, in order, in bounded batches.
Every event handed to the event queue is delivered to the consumer exactly once; events from one
producer arrive in the order that producer queued them; no delivered batch is larger than the flush
threshold; anything queued is delivered no later than the next flush tick. This holds with any
number of concurrent producers and a concurrently firing flush timer, without deadlock as long as
the consumer keeps reading.

Model (SE/Model/Queue.lean): `qStep s label` is one atomic action of one goroutine of
pkg/event/event.go (`Queue`: acquire / append / send / release; the ticker goroutine's `Flush`:
tAcquire / tSend / tRelease; the consumer: recv); `qRun s sched` runs a *schedule*, a list of
labels chosen by Go's runtime. Every theorem below quantifies over every threshold `thr`, channel
capacity `cap`, number of producers and their programs (`programs[p]` = the list of `Queue(batch)`
calls producer `p` makes), number of ticks, and EVERY schedule `sched` for which the run is
defined (`qRun … sched = some s`: every step of it was enabled) — i.e. over every reachable state.

Vocabulary (SE/Proofs/Queue.lean): `pipeline s = delivered ++ channel ++ q` flattened — all events
appended so far in global append order; `pc.rest` = the events of the current call not yet
appended; `pc.isIdle` = the goroutine is outside its critical section; `Owned owner programs` =
events are tagged: every event of `programs[p]` has `owner e = p` (this is how an observer can
tell the producers' events apart; the queue itself never looks at the tag).
-/
namespace SE.Props.C16
open SE
variable {E : Type}

/-- Mutual exclusion: in every reachable state at most one goroutine (a producer inside `Queue` or
    the ticker inside `Flush`) is in its critical section, and the mutex is held exactly when one
    is. -/
theorem mutual_exclusion (thr cap ticks : Nat) (programs : List (List (List E))) (sched : List QLabel)
    (s : QSt E) (h : qRun (qInit thr cap programs ticks) sched = some s) :
    (∀ (i j : Nat) (pi pj : QProd E), s.prods[i]? = some pi → s.prods[j]? = some pj →
        pi.pc.isIdle = false → pj.pc.isIdle = false → i = j) ∧
    (s.tickPc.isIdle = false → ∀ (i : Nat) (pi : QProd E), s.prods[i]? = some pi → pi.pc.isIdle = true) ∧
    (s.locked = true ↔
      (s.tickPc.isIdle = false ∨ ∃ (i : Nat) (pi : QProd E), s.prods[i]? = some pi ∧ pi.pc.isIdle = false)) :=
  have hm := QMutex.reachable thr cap ticks programs sched s h
  ⟨hm.excl, hm.exclT, hm.lockedIff⟩

/-- Exactly once, in order (conservation). In every reachable state, for every producer `p`:
    its program, flattened, is exactly (its events in `delivered ++ channel ++ q`, in that order)
    followed by the not-yet-appended rest of its current call and its future calls. So nothing is
    lost, duplicated or reordered within a producer, and nothing foreign is in the pipeline.
    In particular the delivered batches alone satisfy the prefix specification `deliveryPrefixOk`. -/
theorem exactly_once_in_order [DecidableEq E] (owner : E → Nat) (thr cap ticks : Nat)
    (programs : List (List (List E))) (ho : Owned owner programs) (sched : List QLabel) (s : QSt E)
    (h : qRun (qInit thr cap programs ticks) sched = some s) :
    (∀ (p : Nat) (prog : List (List E)) (pr : QProd E), programs[p]? = some prog → s.prods[p]? = some pr →
        progEvents prog =
          (pipeline s).filter (fun e => owner e == p) ++ (pr.pc.rest ++ pr.todo.flatten)) ∧
    (∀ e, e ∈ pipeline s → owner e < programs.length) ∧
    s.prods.length = programs.length ∧
    deliveryPrefixOk owner programs s.delivered = true := by
  have hinv := (QInv.reachable ho thr cap ticks sched s h).cons
  refine ⟨hinv.cons, hinv.own, hinv.len, ?_⟩
  simp only [deliveryPrefixOk, Bool.and_eq_true, List.all_eq_true, decide_eq_true_eq, Prod.forall,
    List.mem_zipIdx_iff_getElem?, List.isPrefixOf_iff_prefix]
  refine ⟨fun prog p hprog => ?_, fun e he => hinv.own e (List.mem_append_left _ (List.mem_append_left _ he))⟩
  obtain ⟨pr, hpr⟩ := hinv.prod_of_prog hprog
  rw [progEvents, hinv.cons p prog pr hprog hpr]
  unfold deliveredOf pipeline
  simp only [List.filter_append, List.append_assoc]
  exact List.prefix_append _ _

/-- Completeness at quiescence: once every producer has finished its program and the pending slice
    and the channel are empty (e.g. after a final tick and enough `recv`s), the consumer has
    received, per producer, exactly that producer's events, each once, in program order. -/
theorem delivered_complete_at_quiescence [DecidableEq E] (owner : E → Nat) (thr cap ticks : Nat)
    (programs : List (List (List E))) (ho : Owned owner programs) (sched : List QLabel) (s : QSt E)
    (h : qRun (qInit thr cap programs ticks) sched = some s)
    (hdone : ∀ pr, pr ∈ s.prods → pr.todo = [] ∧ pr.pc.isIdle = true)
    (hq : s.q = []) (hc : s.chan = []) :
    deliveryCompleteOk owner programs s.delivered = true := by
  have hinv := (QInv.reachable ho thr cap ticks sched s h).cons
  simp only [deliveryCompleteOk, List.all_eq_true, Prod.forall, List.mem_zipIdx_iff_getElem?, beq_iff_eq]
  intro prog p hmem
  obtain ⟨⟨todo, pc⟩, hpr⟩ := hinv.prod_of_prog hmem
  obtain ⟨rfl, hidle⟩ := hdone _ (List.mem_iff_getElem?.2 ⟨p, hpr⟩)
  cases pc with
  | holding r | sending r => cases hidle
  | idle =>
    have := hinv.cons p prog _ hmem hpr
    simp only [pipeline, hq, hc, QPc.rest, List.flatten_nil, List.append_nil] at this
    exact this.symm

/-- Bounded batches: in every reachable state every delivered batch, every batch in the channel
    and the pending slice `q` has at most `max thr 1` events (a threshold of 0 behaves like 1), and
    the channel never holds more than `cap` batches. -/
theorem batch_le_threshold [DecidableEq E] (thr cap ticks : Nat) (programs : List (List (List E)))
    (sched : List QLabel) (s : QSt E) (h : qRun (qInit thr cap programs ticks) sched = some s) :
    batchesBounded thr s.delivered = true ∧ batchesBounded thr s.chan = true ∧
      s.q.length ≤ max thr 1 ∧ s.chan.length ≤ cap := by
  obtain ⟨_, hb⟩ := QBound.reachable thr cap ticks programs sched s h
  obtain ⟨ht, hcp⟩ := qRun_init_params h
  simp only [batchesBounded, List.all_eq_true, decide_eq_true_eq]
  rw [← ht, ← hcp]
  exact ⟨hb.delB, hb.chanB, hb.qB, hb.chanCap⟩

/-- A threshold flush is exact: whenever a producer's send step fires, the batch it puts on the
    channel is the whole pending slice and has exactly `max thr 1` events; `q` is empty afterwards.
    (Only ticker flushes produce shorter batches.) -/
theorem threshold_flush_exact (thr cap ticks : Nat) (programs : List (List (List E)))
    (sched : List QLabel) (s s' : QSt E) (p : Nat)
    (h : qRun (qInit thr cap programs ticks) sched = some s) (hs : qStep s (.send p) = some s') :
    s.q.length = max thr 1 ∧ s'.chan = s.chan ++ [s.q] ∧ s'.q = [] ∧ s'.delivered = s.delivered := by
  obtain ⟨_, hb⟩ := QBound.reachable thr cap ticks programs sched s h
  cases qStep_iff.1 hs with | send hi =>
  have hdue := hb.due p _ hi rfl
  have hqb := hb.qB
  rw [(qRun_init_params h).1] at hdue hqb
  exact ⟨by omega, rfl, rfl, rfl⟩

/-- A flush tick empties `q`: the ticker's send step moves the whole pending slice, as one batch,
    to the channel (in any state; an empty `q` is sent as an empty batch, as in the Go code). -/
theorem tick_empties_q (s s' : QSt E) (h : qStep s .tSend = some s') :
    s'.q = [] ∧ s'.chan = s.chan ++ [s.q] ∧ s'.delivered = s.delivered := by
  cases qStep_iff.1 h
  exact ⟨rfl, rfl, rfl⟩

/-- Anything queued is delivered no later than the next flush tick. Let `s0` be any reachable
    state, let the ticker acquire the mutex there, let any steps `mid` other than the ticker's send
    happen, then the ticker's send, reaching `s3`. Then: the only steps that could happen in
    between are consumer receives (the ticker holds the mutex, so no producer can append), `q` is
    empty in `s3`, and every event that had been appended before the tick began (`pipeline s0`) is,
    in the same order, in `delivered ++ channel` of `s3`. -/
theorem tick_flushes_everything (thr cap ticks : Nat) (programs : List (List (List E)))
    (pre mid : List QLabel) (s0 s3 : QSt E)
    (h0 : qRun (qInit thr cap programs ticks) pre = some s0) (hmid : QLabel.tSend ∉ mid)
    (h : qRun s0 (.tAcquire :: (mid ++ [.tSend])) = some s3) :
    s3.q = [] ∧ s3.delivered.flatten ++ s3.chan.flatten = pipeline s0 ∧ ∀ l, l ∈ mid → l = .recv := by
  have hm0 := QMutex.reachable thr cap ticks programs pre s0 h0
  obtain ⟨s1, h1, h⟩ := qRun_cons.1 h
  obtain ⟨s2, h2, h⟩ := qRun_append.1 h
  obtain ⟨_, h3, h⟩ := qRun_cons.1 h
  cases h
  have hm1 := hm0.step h1
  cases h1
  obtain ⟨(g3 : pipeline s2 = pipeline s0), g5⟩ := tick_window mid _ s2 [] hm1 rfl hmid h2
  cases h3
  refine ⟨rfl, ?_, g5⟩
  rw [← g3]
  simp [pipeline, List.flatten_append]

/-- No deadlock (channel capacity ≥ 1): in every reachable state that is not final (`qFinal`: all
    producers done and idle, no ticks left, ticker idle, channel drained) some step is enabled.
    NOTE: this model has no rendezvous step, so with `cap = 0` a send is never enabled (see
    `cap_zero_never_sends`); the Go unbuffered channel would hand over directly to a waiting
    receiver. The statement is therefore for `cap ≥ 1`. -/
theorem no_deadlock (thr cap ticks : Nat) (programs : List (List (List E))) (sched : List QLabel)
    (s : QSt E) (h : qRun (qInit thr cap programs ticks) sched = some s) (hcap : 1 ≤ cap)
    (hnf : ¬ qFinal s) : ∃ l, (qStep s l).isSome = true := by
  have hm := QMutex.reachable thr cap ticks programs sched s h
  obtain ⟨l, s', hq⟩ := exists_enabled hm ((qRun_init_params h).2 ▸ hcap) hnf
  exact ⟨l, hq.isSome⟩

/-- The only way the mutex holder can be stuck is a full channel, and then the consumer can move
    and its receive unblocks the sender: in a reachable state (`cap ≥ 1`) where producer `p` is at
    its send and the send is not enabled, `recv` is enabled, and after it the send is enabled.
    The same for the ticker's send. -/
theorem blocked_send_unblocked_by_recv (thr cap ticks : Nat) (programs : List (List (List E)))
    (sched : List QLabel) (s : QSt E) (h : qRun (qInit thr cap programs ticks) sched = some s)
    (hcap : 1 ≤ cap) :
    (∀ (p : Nat) (todo : List (List E)) (rest : List E), s.prods[p]? = some ⟨todo, .sending rest⟩ →
        qStep s (.send p) = none →
        ∃ s', qStep s .recv = some s' ∧ (qStep s' (.send p)).isSome = true) ∧
    (∀ (r : List E), s.tickPc = .sending r → qStep s .tSend = none →
        ∃ s', qStep s .recv = some s' ∧ (qStep s' .tSend).isSome = true) := by
  obtain ⟨_, hb⟩ := QBound.reachable thr cap ticks programs sched s h
  have hc1 : 1 ≤ s.cap := (qRun_init_params h).2 ▸ hcap
  -- a blocked send means a full channel; `cap ≥ 1`, so it is non-empty, and a receive makes room
  have key : ¬ s.chan.length < s.cap → ∃ b rest, s.chan = b :: rest ∧ rest.length < s.cap := by
    intro hfull
    have hcc := hb.chanCap
    cases hch : s.chan with
    | nil => rw [hch] at hfull; exact absurd hc1 hfull
    | cons b rest => rw [hch] at hcc; exact ⟨b, rest, rfl, hcc⟩
  constructor
  · intro p todo rest hp hblocked
    obtain ⟨b, bs, hch, hroom⟩ := key fun hroom => (QStep.send hp hroom).ne_none hblocked
    exact ⟨_, qStep_iff.2 (.recv hch), QStep.isSome (.send hp hroom)⟩
  · intro r hp hblocked
    obtain ⟨b, bs, hch, hroom⟩ := key fun hroom => (QStep.tSend hp hroom).ne_none hblocked
    exact ⟨_, qStep_iff.2 (.recv hch), QStep.isSome (.tSend hp hroom)⟩

/-- The system cannot run forever: every step consumes at least one unit of the budget `qMeasure`
    (3 per event still to append, 2 per call, 4 per tick, 1 per batch in the channel), so every
    schedule from the initial state has length at most `qMeasure` of the initial state. -/
theorem runs_are_bounded (thr cap ticks : Nat) (programs : List (List (List E))) (sched : List QLabel)
    (s : QSt E) (h : qRun (qInit thr cap programs ticks) sched = some s) :
    sched.length + qMeasure s ≤ qMeasure (qInit thr cap programs ticks) :=
  qRun_measure sched _ s h

/-- … and it can only stop in a final state (`cap ≥ 1`): if no step at all is enabled in a reachable
    state, then every producer has finished, the ticker is done and the channel is drained.
    Together with `runs_are_bounded`: whatever the scheduler does, as long as it keeps picking enabled
    steps (in particular, the consumer keeps reading), the run ends, and it ends in a final state. -/
theorem stuck_only_when_final (thr cap ticks : Nat) (programs : List (List (List E)))
    (sched : List QLabel) (s : QSt E) (h : qRun (qInit thr cap programs ticks) sched = some s)
    (hcap : 1 ≤ cap) (hstuck : ∀ l, qStep s l = none) : qFinal s :=
  stuck_final (QMutex.reachable thr cap ticks programs sched s h) ((qRun_init_params h).2 ▸ hcap)
    fun l _ hq => hq.ne_none (hstuck l)

/-- From every reachable state (`cap ≥ 1`) some continuation reaches a final state. -/
theorem can_always_complete (thr cap ticks : Nat) (programs : List (List (List E)))
    (sched : List QLabel) (s : QSt E) (h : qRun (qInit thr cap programs ticks) sched = some s)
    (hcap : 1 ≤ cap) : ∃ sched' s', qRun s sched' = some s' ∧ qFinal s' :=
  exists_completion s (QMutex.reachable thr cap ticks programs sched s h) ((qRun_init_params h).2 ▸ hcap)

/-- Remark on `cap = 0`: in this model a send on a capacity-0 channel is never enabled (there is no
    rendezvous step), so the first flush blocks forever. Go's unbuffered channel hands the batch to
    a receiver that is already waiting; that behaviour is outside this model. -/
theorem cap_zero_never_sends (s : QSt E) (h : s.cap = 0) (p : Nat) :
    qStep s (.send p) = none ∧ qStep s .tSend = none := by
  constructor
  · exact qStep_eq_none fun s' hq => by cases hq with | send _ hroom => omega
  · exact qStep_eq_none fun s' hq => by cases hq with | tSend _ hroom => omega

/-- Bridge to the call-level semantics used by the executable driver: from a state where producer
    `p` is idle with `Queue(batch)` as its next call and the mutex is free, the canonical schedule
    of that call (`acquire p`, then per event `append p` followed by `send p` whenever the threshold
    is reached, then `release p`; `callSched`) runs to completion — provided the channel has room
    for the batches the call flushes — and leaves `q` and the channel exactly as the sequential
    function `queueCall thr q batch []` says; nothing else changes except that the call is consumed. -/
theorem queue_call_canonical (s : QSt E) (p : Nat) (batch : List E) (todo : List (List E))
    (hp : s.prods[p]? = some ⟨batch :: todo, .idle⟩) (hfree : s.locked = false)
    (hroom : s.chan.length + (queueCall s.thr s.q batch []).2.length ≤ s.cap) :
    qRun s (.acquire p :: callSched p s.thr s.q.length batch) =
      some { s with q := (queueCall s.thr s.q batch []).1,
                    chan := s.chan ++ (queueCall s.thr s.q batch []).2,
                    prods := s.prods.set p ⟨todo, .idle⟩ } := by
  have h2 := call_body_bridge p batch
    { s with prods := s.prods.set p ⟨todo, .holding batch⟩, locked := true } todo
    (getElem?_set_self_of_some hp) hroom
  refine qRun_cons.2 ⟨_, .acquire hp hfree, ?_⟩
  simpa [List.set_set, hfree] using h2

/-- The same for a flush tick: with the mutex free, the ticker idle, a tick pending and room for
    one batch, `tAcquire, tSend, tRelease` moves `q` (even if empty) to the channel as one batch. -/
theorem tick_canonical (s : QSt E) (hidle : s.tickPc = .idle) (hfree : s.locked = false)
    (hticks : 0 < s.ticks) (hroom : s.chan.length < s.cap) :
    qRun s [.tAcquire, .tSend, .tRelease] =
      some { s with q := [], chan := s.chan ++ [s.q], ticks := s.ticks - 1 } := by
  refine qRun_cons.2 ⟨_, .tAcquire hidle hfree hticks, qRun_cons.2 ⟨_, .tSend rfl hroom,
    qRun_cons.2 ⟨_, .tRelease rfl, ?_⟩⟩⟩
  simp [qRun, hidle, hfree]

/-- What the executable driver computes for its `q <n>` operation (SE/Driver/Queue.lean): its
    fuel-bounded loop `runCall`, started after `acquire 0` with the driver's fuel `2·n + 4`, executes
    exactly the canonical schedule above, so the driver's state after the operation is the
    `queueCall` result. (The driver's `tick` operation is literally `tick_canonical`'s schedule and
    its `recv` a single `recv` step.) Hence the exhaustive call-level comparison against the real Go
    `EventQueue` exercised the same micro-step machine the theorems above are about. -/
theorem driver_queue_op (s : QSt Nat) (batch : List Nat) (todo : List (List Nat))
    (hp : s.prods[0]? = some ⟨batch :: todo, .idle⟩) (hfree : s.locked = false)
    (hroom : s.chan.length + (queueCall s.thr s.q batch []).2.length ≤ s.cap) :
    (qStep s (.acquire 0)).bind (SE.Driver.runCall · (2 * batch.length + 4)) =
      some { s with q := (queueCall s.thr s.q batch []).1,
                    chan := s.chan ++ (queueCall s.thr s.q batch []).2,
                    prods := s.prods.set 0 ⟨todo, .idle⟩ } := by
  have h := queue_call_canonical s 0 batch todo hp hfree hroom
  rw [qRun, qStep_iff.2 (.acquire hp hfree), Option.bind_some] at h
  rw [qStep_iff.2 (.acquire hp hfree), Option.bind_some, ← h]
  exact SE.Driver.runCall_eq_canonical (getElem?_set_self_of_some hp) (by omega)

/-! ### Non-vacuity: a concrete two-producer system, `E = Nat`, events tagged by `e / 10`.
Threshold 2, channel capacity 1, producer 0 calls `Queue([0,1]); Queue([2])`, producer 1 calls
`Queue([10,11,12])`, one tick. -/

def exProgs : List (List (List Nat)) := [[[0, 1], [2]], [[10, 11, 12]]]
def exOwner : Nat → Nat := (· / 10)

example : Owned exOwner exProgs := Owned_of_ownedB (by decide)

/-- producer 0 fills a batch and sends it; producer 1 fills the next batch and is blocked on the
    full channel -/
def exBlocked : List QLabel :=
  [.acquire 0, .append 0, .append 0, .send 0, .release 0, .acquire 1, .append 1, .append 1]

-- the blocked state: channel full with producer 0's batch, producer 1 at its send holding `q = [10, 11]`
example : (qRun (qInit 2 1 exProgs 1) exBlocked).map (fun s => (s.chan, s.q, s.locked, s.delivered)) =
    some ([[0, 1]], [10, 11], true, []) := by decide +kernel
-- the send is not enabled, nor is any step of producer 0 or the ticker: only `recv` can move
example : (qRun (qInit 2 1 exProgs 1) (exBlocked ++ [.send 1])).isSome = false := by decide +kernel
example : (qRun (qInit 2 1 exProgs 1) (exBlocked ++ [.acquire 0])).isSome = false := by decide +kernel
example : (qRun (qInit 2 1 exProgs 1) (exBlocked ++ [.tAcquire])).isSome = false := by decide +kernel
-- `recv` unblocks the sender
example : (qRun (qInit 2 1 exProgs 1) (exBlocked ++ [.recv, .send 1])).map
    (fun s => (s.delivered, s.chan, s.q)) = some ([[0, 1]], [[10, 11]], []) := by decide +kernel

/-- a complete interleaved run: the odd event 12 waits in `q` until producer 0's 2 fills the batch `[12, 2]`;
    the tick then finds `q` empty and sends the empty batch -/
def exFull : List QLabel :=
  exBlocked ++ [.recv, .send 1, .append 1, .release 1, .acquire 0, .recv, .append 0, .send 0,
    .release 0, .recv, .tAcquire, .tSend, .tRelease, .recv]

example : (qRun (qInit 2 1 exProgs 1) exFull).map (fun s => (s.delivered, s.chan, s.q, s.locked)) =
    some ([[0, 1], [10, 11], [12, 2], []], [], [], false) := by decide +kernel
example : deliveryCompleteOk exOwner exProgs [[0, 1], [10, 11], [12, 2], []] = true := by decide +kernel
example : deliveryPrefixOk exOwner exProgs [[0, 1], [10, 11]] = true := by decide +kernel
example : batchesBounded 2 [[0, 1], [10, 11], [12, 2], ([] : List Nat)] = true := by decide +kernel
-- the specification predicates do reject wrong deliveries: a reordering, a duplicate, a loss, an oversized batch
example : deliveryPrefixOk exOwner exProgs [[1, 0]] = false := by decide +kernel
example : deliveryPrefixOk exOwner exProgs [[0, 1], [0]] = false := by decide +kernel
example : deliveryCompleteOk exOwner exProgs [[0, 1], [10, 11], [12]] = false := by decide +kernel
example : batchesBounded 2 [[0, 1, 2]] = false := by decide +kernel

-- `cap = 0`: after the first threshold is reached nothing but (disabled) sends remain for the holder
example : (qRun (qInit 1 0 [[[7]]] 0) [.acquire 0, .append 0]).map (fun s => (s.q, s.locked)) =
    some ([7], true) := by decide +kernel
example : (qRun (qInit 1 0 [[[7]]] 0) [.acquire 0, .append 0, .send 0]).isSome = false := by decide +kernel
example : (qRun (qInit 1 0 [[[7]]] 0) [.acquire 0, .append 0, .recv]).isSome = false := by decide +kernel

-- the canonical schedule of a call agrees with `queueCall` (threshold 2, `q` already holds one event)
example : callSched 0 2 1 [5, 6, 7] = [.append 0, .send 0, .append 0, .append 0, .send 0, .release 0] := by decide +kernel
example : queueCall 2 [4] [5, 6, 7] [] = ([], [[4, 5], [6, 7]]) := by decide +kernel

end SE.Props.C16
