import SE.Proofs.History
/-
C07 — TTL expiry removes exactly the stale series.
`Reg.sweep now` models `RemoveStaleMetrics` at clock value `now`; `Reg.getOrCreate` models the
`GetCounter/GetGauge/GetHistogram/GetSummary` path (which restarts the clock and the ttl of the series
it returns); `handleEvent` is one event through the exporter. All theorems hold for every registry,
every clock value, every event, label set and configuration.

Vocabulary (SE/Spec/Registry.lean): `r.HasSeries name s` = `s` is a series of a metric called `name`
(membership); `r.series? name labels` = the series a lookup of (name, sorted label set) finds;
`RegWF r` = the registry invariant (distinct names, distinct label sets per metric, every series has
its vector), which holds initially and is preserved by every operation (`wf_invariant` below).
Stages of `handleEvent` (SE/Spec/Pipe.lean): `evRule` = the matched rule, `evTtl` = its ttl
or the default, `evLabels` = the merged label map, `evTarget` = the registry request `(type, GetArgs,
update)` if the event reaches the registry.
-/
namespace SE.Props.C07
open SE
variable {V : Type} [NumOps V]

/-- **Sweep removes exactly the stale series.** The metrics stay where they are, with their name, type
    and vectors; a series is in metric `i` after the sweep iff it was there before (the same record:
    same labels, ttl, last, value, counts) and it is not stale (`ttl = 0` or `last + ttl ≥ now`);
    the surviving series keep their order. -/
theorem sweep_removes_exactly_stale (r : Reg V) (now : Int) :
    (r.sweep now).metrics.length = r.metrics.length ∧ (r.sweep now).pre = r.pre ∧
    ∀ (i : Nat) (m : MetricM V), r.metrics[i]? = some m →
      ∃ m', (r.sweep now).metrics[i]? = some m' ∧ m'.name = m.name ∧ m'.ty = m.ty ∧ m'.vecs = m.vecs ∧
        m'.series.Sublist m.series ∧
        ∀ s, s ∈ m'.series ↔ s ∈ m.series ∧ (s.ttl = 0 ∨ s.last + s.ttl ≥ now) := by
  refine ⟨by rw [sweep_metrics, List.length_map], rfl, ?_⟩
  intro i m hm
  refine ⟨sweepMetric now m, by rw [sweep_metrics, List.getElem?_map, hm]; rfl, rfl, rfl, rfl,
    List.filter_sublist, ?_⟩
  intro s
  simp only [sweepMetric, List.mem_filter, keepSeries_iff, ge_iff_le]

/-- The same, by name: `s` is a series of `name` after the sweep iff it was before and is not stale. -/
theorem sweep_hasSeries (r : Reg V) (now : Int) (name : Bytes) (s : Series V) :
    (r.sweep now).HasSeries name s ↔ r.HasSeries name s ∧ (s.ttl = 0 ∨ s.last + s.ttl ≥ now) := by
  unfold Reg.HasSeries
  rw [sweep_metrics]
  constructor
  · rintro ⟨m', hm', hn, hs⟩
    obtain ⟨m, hm, rfl⟩ := List.mem_map.mp hm'
    obtain ⟨hs1, hs2⟩ := List.mem_filter.mp hs
    exact ⟨⟨m, hm, hn, hs1⟩, (keepSeries_iff now s).mp hs2⟩
  · rintro ⟨⟨m, hm, hn, hs⟩, hk⟩
    exact ⟨sweepMetric now m, List.mem_map_of_mem hm, hn, List.mem_filter.mpr ⟨hs, (keepSeries_iff now s).mpr hk⟩⟩

/-- The same, for lookups on a well-formed registry: a lookup after the sweep finds what it found
    before unless that series is stale, in which case it finds nothing. -/
theorem sweep_lookup (r : Reg V) (hw : RegWF r) (now : Int) (name : Bytes) (labels : Labels) :
    (r.sweep now).series? name labels =
      match r.series? name labels with
      | some s => if s.ttl ≠ 0 ∧ s.last + s.ttl < now then none else some s
      | none => none := by
  rw [hw.series?_sweep]
  cases r.series? name labels with
  | none => rfl
  | some s =>
    have hk : keepSeries now s = true ↔ ¬(s.ttl ≠ 0 ∧ s.last + s.ttl < now) := by rw [keepSeries_iff]; omega
    simp only [Option.filter, hk, ite_not]

/-- A sweep changes no metric's type and no vector (help, buckets, summary options). -/
theorem sweep_keeps_types (r : Reg V) (now : Int) (name : Bytes) (names : List Bytes) :
    (r.sweep now).type? name = r.type? name ∧ (r.sweep now).vec? name names = r.vec? name names :=
  ⟨type?_sweep r now name, vec?_sweep r now name names⟩

/-- **Never removed early**: a series whose deadline `last + ttl` has not passed survives. -/
theorem never_removed_early (r : Reg V) (now : Int) (name : Bytes) (s : Series V)
    (h : r.HasSeries name s) (hd : now ≤ s.last + s.ttl) : (r.sweep now).HasSeries name s :=
  (sweep_hasSeries r now name s).mpr ⟨h, Or.inr hd⟩

/-- A series with ttl 0 never expires, at any clock value. -/
theorem ttl_zero_never_expires (r : Reg V) (now : Int) (name : Bytes) (s : Series V)
    (h : r.HasSeries name s) (h0 : s.ttl = 0) : (r.sweep now).HasSeries name s :=
  (sweep_hasSeries r now name s).mpr ⟨h, Or.inl h0⟩

/-- **Removed when due**: a series with a non-zero ttl whose deadline has passed is gone. -/
theorem stale_removed (r : Reg V) (now : Int) (name : Bytes) (s : Series V)
    (h0 : s.ttl ≠ 0) (hd : s.last + s.ttl < now) : ¬ (r.sweep now).HasSeries name s := by
  intro h
  have := ((sweep_hasSeries r now name s).mp h).2
  omega

/-- **A touch restarts the clock and the ttl** (registry level): after a successful `getOrCreate`
    the addressed series has `last = now` and `ttl = args.ttl` — whether it existed (then its value is
    unchanged) or was created (then it is zero). -/
theorem touch_restarts_clock_and_ttl (r r' : Reg V) (ty : MType) (a : GetArgs V) (now : Int)
    (h : r.getOrCreate ty a now = .ok (.ok r')) :
    ∃ s, r'.series? a.name a.labels = some s ∧ s.labels = a.labels ∧ s.last = now ∧ s.ttl = a.ttl ∧
      ((∃ s0, r.series? a.name a.labels = some s0 ∧ s.sameValue s0) ∨
       (r.series? a.name a.labels = none ∧ s.isFresh)) := by
  refine ⟨_, by rw [getOrCreate_series? h, if_pos ⟨rfl, rfl⟩], refreshed_labels r ty a now, rfl, rfl, ?_⟩
  unfold Reg.refreshed
  cases r.series? a.name a.labels with
  | some s0 => exact Or.inl ⟨s0, rfl, rfl, rfl, rfl, rfl⟩
  | none => exact Or.inr ⟨rfl, freshSeries_isFresh ..⟩

/-- … and a touched series is not removed before `now + ttl`: the deadline is counted from the touch. -/
theorem touched_survives_until_deadline (r r' : Reg V) (hw : RegWF r) (ty : MType) (a : GetArgs V) (now later : Int)
    (h : r.getOrCreate ty a now = .ok (.ok r')) (hl : a.ttl = 0 ∨ later ≤ now + a.ttl) :
    ∃ s, (r'.sweep later).series? a.name a.labels = some s ∧ s.last = now ∧ s.ttl = a.ttl := by
  refine ⟨r.refreshed ty a now, ?_, rfl, rfl⟩
  rw [(RegWF_getOrCreate hw h).series?_sweep, getOrCreate_series? h, if_pos ⟨rfl, rfl⟩]
  have : keepSeries later (r.refreshed ty a now) = true := (keepSeries_iff later _).mpr hl
  simp [Option.filter, this]

/-- **A touch restarts the clock and the ttl** (exporter level): when `handleEvent` applies an event
    (`applied` goes up by one), the series it addresses — metric name and sorted labels of the registry
    request `evTarget` — has afterwards `last = p.now` and `ttl` = the matched rule's ttl, or the
    configured default ttl when no rule matched. -/
theorem handleEvent_restarts_clock_and_ttl (p p' : Pipe V) (rx : Rx) (ev : Ev V) (tags : Labels)
    (h : handleEvent p rx ev tags = some (.ok p')) (ha : p'.counts.applied = p.counts.applied + 1) :
    ∃ c pl s, evTarget p rx ev tags = some (c, pl) ∧
      pl.2.1.labels = (evLabels p rx ev tags).sorted ∧
      p'.reg.series? pl.2.1.name pl.2.1.labels = some s ∧ s.last = p.now ∧
      s.ttl = (match evRule p rx ev with
               | some rule => rule.ttl
               | none => p.mapper.cfg.dTtl) := by
  obtain ⟨c, pl, reg, ht, hg, e⟩ := handleEvent_applied h ha
  subst e
  obtain ⟨s, hs, hlast, httl, _⟩ := applied_addressed ht hg
  exact ⟨c, pl, _, ht, (evTarget_args ht).1, hs, hlast, by rw [httl, (evTarget_args ht).2.1]; rfl⟩

/-- **Recreated from zero** (registry level): if the series does not exist — e.g. because it expired —
    a successful `getOrCreate` creates it with value zero, count zero and all bucket counts zero. -/
theorem recreated_from_zero (r r' : Reg V) (ty : MType) (a : GetArgs V) (now : Int)
    (hn : r.series? a.name a.labels = none) (h : r.getOrCreate ty a now = .ok (.ok r')) :
    ∃ s, r'.series? a.name a.labels = some s ∧ s.f = NumOps.zero ∧ s.n = 0 ∧ (∀ x, x ∈ s.bk → x = 0) ∧
      s.last = now ∧ s.ttl = a.ttl := by
  obtain ⟨s, hs, _, h1, h2, hc⟩ := touch_restarts_clock_and_ttl r r' ty a now h
  rcases hc with ⟨s0, hs0, _⟩ | ⟨_, hf⟩
  · rw [hn] at hs0; cases hs0
  · exact ⟨s, hs, hf.1, hf.2.1, hf.2.2, h1, h2⟩

/-- An expired series really is gone for the next `getOrCreate`: after the sweep the lookup fails, so the
    next successful request for the same name and labels starts again from zero. -/
theorem expired_then_recreated_from_zero (r r' : Reg V) (hw : RegWF r) (ty : MType) (a : GetArgs V)
    (s0 : Series V) (sweepAt now : Int)
    (hs0 : r.series? a.name a.labels = some s0) (h0 : s0.ttl ≠ 0) (hd : s0.last + s0.ttl < sweepAt)
    (h : (r.sweep sweepAt).getOrCreate ty a now = .ok (.ok r')) :
    ∃ s, r'.series? a.name a.labels = some s ∧ s.f = NumOps.zero ∧ s.n = 0 ∧ (∀ x, x ∈ s.bk → x = 0) := by
  have hn : (r.sweep sweepAt).series? a.name a.labels = none := by
    rw [sweep_lookup r hw, hs0]
    simp [h0, hd]
  obtain ⟨s, hs, h1, h2, h3, _⟩ := recreated_from_zero _ r' ty a now hn h
  exact ⟨s, hs, h1, h2, h3⟩

/-- **Recreated from zero** (exporter level): if the series an applied event addresses did not exist,
    the series exposed afterwards is the event's update applied to the all-zero series — it comes from
    this sample alone. (`vecFor` is the vector the series is created in: the existing one with these
    label names or a new one from the event's help/buckets/summary options.) -/
theorem handleEvent_recreates_from_zero (p p' : Pipe V) (rx : Rx) (ev : Ev V) (tags : Labels)
    (h : handleEvent p rx ev tags = some (.ok p')) (ha : p'.counts.applied = p.counts.applied + 1) :
    ∃ c pl, evTarget p rx ev tags = some (c, pl) ∧
      (p.reg.series? pl.2.1.name pl.2.1.labels = none →
        ∃ s0 : Series V, s0.isFresh ∧ s0.labels = pl.2.1.labels ∧ s0.last = p.now ∧ s0.ttl = pl.2.1.ttl ∧
          p'.reg.series? pl.2.1.name pl.2.1.labels = some (pl.2.2 (p.reg.vecFor pl.1 pl.2.1) s0)) := by
  obtain ⟨c, pl, reg, ht, hg, e⟩ := handleEvent_applied h ha
  subst e
  refine ⟨c, pl, ht, fun hn => ⟨freshSeries pl.1 (p.reg.vecFor pl.1 pl.2.1) pl.2.1 p.now,
    freshSeries_isFresh _ _ _ _, rfl, rfl, rfl, ?_⟩⟩
  rw [applied_series_self ht hg (Or.inl hn), Reg.refreshed, hn]
  rfl

/-- For a counter event this reads: the recreated counter holds exactly this increment
    (`counterAdd` of the zero series), nothing of the expired series' value. -/
theorem counter_recreated_from_zero (p p' : Pipe V) (rx : Rx) (ev : Ev V) (tags : Labels) (hk : ev.kind = .counter)
    (h : handleEvent p rx ev tags = some (.ok p')) (ha : p'.counts.applied = p.counts.applied + 1) :
    ∃ c pl, evTarget p rx ev tags = some (c, pl) ∧
      (p.reg.series? pl.2.1.name pl.2.1.labels = none →
        ∃ s0 : Series V, s0.isFresh ∧
          p'.reg.series? pl.2.1.name pl.2.1.labels = some (counterAdd s0 (evValue p rx ev))) := by
  obtain ⟨c, pl, ht, hcr⟩ := handleEvent_recreates_from_zero p p' rx ev tags h ha
  refine ⟨c, pl, ht, fun hn => ?_⟩
  obtain ⟨s0, hf, _, _, _, hs⟩ := hcr hn
  rw [((evTarget_counter ht).2 hk).2] at hs
  exact ⟨s0, hf, hs⟩

/-- The registry invariant used above: it holds for the empty registry and every operation of the
    exporter goroutine preserves it. -/
theorem wf_invariant :
    (∀ pre, RegWF ({ metrics := [], pre := pre } : Reg V)) ∧
    (∀ (r r' : Reg V) ty a now, RegWF r → r.getOrCreate ty a now = .ok (.ok r') → RegWF r') ∧
    (∀ (r : Reg V) now, RegWF r → RegWF (r.sweep now)) ∧
    (∀ (p p' : Pipe V) rx ev tags, RegWF p.reg → handleEvent p rx ev tags = some (.ok p') → RegWF p'.reg) :=
  ⟨RegWF_empty, fun _ _ _ _ _ hw h => RegWF_getOrCreate hw h, fun _ now hw => RegWF_sweep hw now,
   fun _ _ _ _ _ hw h => RegWF_handleEvent hw h⟩

/-- Under the invariant, membership and lookup say the same. -/
theorem lookup_iff_member (r : Reg V) (hw : RegWF r) (name : Bytes) (s : Series V) :
    r.HasSeries name s ↔ r.series? name s.labels = some s :=
  hw.hasSeries_iff name s

/-! ### Non-vacuity: a concrete registry over the toy value type -/
section examples
attribute [local instance] toyNumOps

private def args (name : Bytes) (ttl : Int) : GetArgs Int := { name := name, labels := [([97], [98])], help := [], ttl := ttl }
private def r0 : Reg Int := {}
private def get (r : Reg Int) (ty : MType) (a : GetArgs Int) (now : Int) : Reg Int :=
  match r.getOrCreate ty a now with
  | .ok (.ok r') => r'
  | _ => r
/-- series as (name, last, ttl) triples -/
private def view (r : Reg Int) : List (Bytes × Int × Int) :=
  r.metrics.flatMap fun m => m.series.map fun s => (m.name, s.last, s.ttl)

-- created at 10 with ttl 5, a second series with ttl 0
private def r2 : Reg Int := get (get r0 .counter (args [120] 5) 10) .gauge (args [121] 0) 10
example : view r2 = [([120], 10, 5), ([121], 10, 0)] := by decide +kernel
-- at 15 = last + ttl nothing is removed; at 16 exactly the first one is
example : view (r2.sweep 15) = [([120], 10, 5), ([121], 10, 0)] := by decide +kernel
example : view (r2.sweep 16) = [([121], 10, 0)] := by decide +kernel
-- a touch at 14 with a new ttl restarts both; the series then survives until 14 + 7
example : view ((get r2 .counter (args [120] 7) 14).sweep 21) = [([120], 14, 7), ([121], 10, 0)] := by
  decide +kernel
example : view ((get r2 .counter (args [120] 7) 14).sweep 22) = [([121], 10, 0)] := by decide +kernel

end examples

end SE.Props.C07
