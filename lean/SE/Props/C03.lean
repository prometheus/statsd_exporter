import SE.Proofs.AvoidsPre
import SE.Spec.FloatLaws
/-
C03 — Every scrape succeeds and is a consistent, parseable exposition (partial by necessity).

What holds of the registry after **every** history (event batches, sweeps, clock changes, reloads, in any
order, from any registry satisfying the invariant `ExpoInv`, e.g. the empty one):
* `metric_names_legal`: every metric name matches `[a-zA-Z_][a-zA-Z0-9_]*` (it is `specEscape` of a
  non-empty string: the mapped name, or the raw statsd name; empty names are refused by `handleEvent`);
* `label_names_not_reserved`: no label name starts with `__`, no histogram series has the label `le`, no
  summary series `quantile` (`checkLabelNames` inside `getOrCreate`);
* `no_duplicate_series`: no two series share metric name and label set.

What holds of `Reg.gatherOk` (the model of "`Registry.Gather` returns no error": one help string per
family, agreement with pre-registered families, no `_sum/_count/_bucket` suffix collision):
* `gather_ok_empty`; `sweep_preserves_gather_ok` (removing series cannot create a help mismatch or a suffix
  collision); `hit_preserves_gather_ok` (an event for an existing series);
  `create_in_live_vector_preserves_gather_ok` (a new series in a vector that already has a live child);
* `statsd_families_suffix_free`: over every history from a registry without statsd metrics the statsd
  families never collide by suffix (the repaired companion-name checks of `getOrCreate`, SE/Props/C08.lean);
  `scrape_fails_only_by_help`: if moreover nothing is pre-registered, the scrape succeeds iff every live
  family has one help string;
* `help_uniform_history`, `help_consistent_history`: over every history from a registry without statsd metrics
  all vectors of one metric name carry the same help string (the repaired registry remembers, per metric name,
  the help string of the first vector it created and uses it for every later vector: `helpFor`), so every
  family has one help string — whatever the mapping rules say, and across reloads;
* **`scrape_succeeds_without_preregistered`**: after EVERY history from an empty registry without
  pre-registered families the scrape succeeds. The history that used to break it (two rules giving one metric
  name two help strings) now scrapes fine, the second vector carrying the first rule's help:
  `help_mismatch_repaired`;
* with pre-registered families it is still **not** an invariant: `gather_ok_invariant_statement` is refuted
  by `preregistered_name_collision` (`gather_ok_not_invariant`) — the only open class; restricted to
  `p.reg.pre = []` the statement holds (`gather_ok_invariant_without_preregistered`). The two classes that
  used to be open besides it are closed: a summary `x` next to a summary `x_sum`
  (`observer_companion_now_refused`) and the help mismatch (`help_mismatch_repaired`);
* **`scrape_succeeds_if_names_avoid_preregistered`** says when the pre-registered families cannot matter: from
  a registry without statsd metrics whose pre-registered families scrape fine by themselves, after EVERY history
  the scrape succeeds provided every statsd metric `AvoidsPre` (SE/Spec/Registry.lean) the pre-registered
  families — its name is not that of a pre-registered family, no pre-registered family is named like one of its
  `_sum/_count/_bucket` companion series, and it is not named like a companion series of a pre-registered summary
  or histogram (`scrape_succeeds_if_live_names_avoid_preregistered`: it is enough to ask this of the metrics that
  have a series). So the open finding is precisely: the scrape fails ONLY IF a client-chosen (mapped, escaped) metric
  name coincides with, or is a companion of, a family another collector exposes — or the other way round. Both
  kinds of clause are needed (`avoidsPre_violated_by_name_collision`, `preregistered_suffix_collision`,
  `preregistered_suffix_collision'`; in general the suffix clauses are necessary for a healthy scrape,
  `scrape_ok_only_if_clear_of_companions`), and the hypotheses are satisfiable (`avoiding_names_scrape_fine`).

Not covered (outside the models): the text encoder itself (escaping of help and label values, float
formatting), and label-name *syntax* for tag keys (they are `specEscape`d in the line parser; see C15).
-/
set_option linter.unusedSectionVars false
namespace SE.Props.C03
open SE
variable {V : Type} [NumOps V]

/-! ## invariants over histories -/

/-- The invariant holds of the empty registry (whatever is pre-registered). -/
theorem expo_inv_empty (pre : List (Bytes × MType × Bytes)) : ExpoInv ({ metrics := [], pre := pre } : Reg V) :=
  ⟨RegWF_empty pre, fun _ h => (by cases h), fun _ h => (by cases h)⟩

/-- It is preserved by every operation of the exporter goroutine, hence by every history. -/
theorem expo_inv_history (rx : Rx) (p p' : Pipe V) (ops : List (PipeOp V)) (hi : ExpoInv p.reg)
    (h : runOps rx p ops = some (.ok p')) : ExpoInv p'.reg :=
  ((ExpoInv_steps rx).runOps ops p (fun _ _ => trivial) hi).ok h

/-- **Metric names are legal.** After every history, every metric name in the registry matches
    `[a-zA-Z_][a-zA-Z0-9_]*`. -/
theorem metric_names_legal (rx : Rx) (p p' : Pipe V) (ops : List (PipeOp V)) (hi : ExpoInv p.reg)
    (h : runOps rx p ops = some (.ok p')) : ∀ m, m ∈ p'.reg.metrics → legalName m.name = true :=
  (expo_inv_history rx p p' ops hi h).names

/-- … in particular every family a scrape collects has a legal name. -/
theorem family_names_legal (rx : Rx) (p p' : Pipe V) (ops : List (PipeOp V)) (hi : ExpoInv p.reg)
    (h : runOps rx p ops = some (.ok p')) : ∀ f, f ∈ p'.reg.families → legalName f.name = true := by
  intro f hf
  obtain ⟨m, hm, _, rfl⟩ := (mem_families _ f).mp hf
  exact metric_names_legal rx p p' ops hi h m hm

/-- One step: the name an applied event registers is the escape of a non-empty string, hence legal. -/
theorem registered_name_legal (p : Pipe V) (rx : Rx) (ev : Ev V) (tags : Labels) (c : Counts) (pl : Plan V)
    (h : evTarget p rx ev tags = some (c, pl)) : legalName pl.2.1.name = true :=
  evTarget_name_legal h

/-- **Label names are not reserved.** After every history, for every series of every metric: no label name
    starts with `__`; a histogram series has no label `le`; a summary series has no label `quantile`. -/
theorem label_names_not_reserved (rx : Rx) (p p' : Pipe V) (ops : List (PipeOp V)) (hi : ExpoInv p.reg)
    (h : runOps rx p ops = some (.ok p')) :
    ∀ m, m ∈ p'.reg.metrics → ∀ s, s ∈ m.series → ∀ k, k ∈ s.labels.map (·.1) →
      reservedPrefix.isPrefixOf k = false ∧
      (m.ty = .histogram → k ≠ strBytes "le") ∧ (m.ty = .summary → k ≠ strBytes "quantile") := by
  intro m hm s hs k hk
  have := (labelNamesBad_false_iff _ _).mp ((expo_inv_history rx p p' ops hi h).labels m hm s hs) k hk
  refine ⟨this.1, fun ht => ?_, fun ht => ?_⟩
  · rw [ht] at this; exact this.2 (by decide)
  · rw [ht] at this; exact this.2 (by decide)

theorem nodup_series_keys (ms : List (MetricM V)) (h1 : (ms.map (·.name)).Nodup)
    (h2 : ∀ m, m ∈ ms → (m.series.map (·.labels)).Nodup) :
    (ms.flatMap fun m => m.series.map fun s => (m.name, s.labels)).Nodup := by
  refine List.pairwise_flatMap.mpr ⟨fun m hm => ?_, (List.pairwise_map.mp h1).imp fun hne x hx y hy e => ?_⟩
  · -- within one metric the label sets differ
    exact List.pairwise_map.mpr ((List.pairwise_map.mp (h2 m hm)).imp fun hne e => hne (congrArg Prod.snd e))
  · -- across metrics the names differ
    obtain ⟨_, _, rfl⟩ := List.mem_map.mp hx
    obtain ⟨_, _, rfl⟩ := List.mem_map.mp hy
    exact hne (congrArg Prod.fst e)

/-- **No duplicate series.** After every history the (metric name, label set) keys of all series of the
    registry are pairwise distinct: the exposition never contains the same sample twice. -/
theorem no_duplicate_series (rx : Rx) (p p' : Pipe V) (ops : List (PipeOp V)) (hi : ExpoInv p.reg)
    (h : runOps rx p ops = some (.ok p')) :
    (p'.reg.metrics.flatMap fun m => m.series.map fun s => (m.name, s.labels)).Nodup := by
  have hw := (expo_inv_history rx p p' ops hi h).wf
  exact nodup_series_keys _ hw.names_nodup hw.labels_nodup

/-- the same for any well-formed registry -/
theorem no_duplicate_series_wf (r : Reg V) (hw : RegWF r) :
    (r.metrics.flatMap fun m => m.series.map fun s => (m.name, s.labels)).Nodup :=
  nodup_series_keys _ hw.names_nodup hw.labels_nodup

/-! ## `gatherOk`: what preserves it -/

/-- The empty registry scrapes fine. -/
theorem gather_ok_empty : ({} : Reg V).gatherOk = true := rfl

/-- Fewer series cannot create a help mismatch … -/
theorem help_consistent_antitone (m m' : MetricM V) (hv : m'.vecs = m.vecs)
    (hs : ∀ s, s ∈ m'.series → s ∈ m.series) (h : helpConsistent m = true) : helpConsistent m' = true :=
  helpConsistent_of_sim hv (fun s hs' => ⟨s, hs s hs', rfl⟩) h

/-- … and fewer families cannot create a suffix collision. -/
theorem suffix_collision_monotone (fams fams' : List (Bytes × MType)) (hsub : ∀ x, x ∈ fams' → x ∈ fams)
    (h : suffixCollision fams = false) : suffixCollision fams' = false := by
  rw [← Bool.not_eq_true, suffixCollision_iff] at h ⊢
  rintro ⟨x, hx, y, hy, hxy⟩
  exact h ⟨x, hsub x hx, y, hsub y hy, hxy⟩

/-- **The stale-series sweep preserves a healthy scrape.** -/
theorem sweep_preserves_gather_ok (r : Reg V) (now : Int) (h : r.gatherOk = true) : (r.sweep now).gatherOk = true :=
  gatherOk_within (within_sweep r now) h

/-- **The hit path preserves a healthy scrape**: an event for a series that already exists (same name, type
    and label set) — refresh of clock/ttl by `getOrCreate`, then the value update. -/
theorem hit_preserves_gather_ok (r r' : Reg V) (ty : MType) (a : GetArgs V) (now : Int)
    (f : VecM V → Series V → Series V) (hf : ∀ v s, (f v s).labels = s.labels)
    (hg : r.getOrCreate ty a now = .ok (.ok r')) (hh : r.isHit ty a = true) (h : r.gatherOk = true) :
    (updateSeries r' a.name a.labels f).gatherOk = true := by
  rcases getOrCreate_ok_cases hg with ⟨_, rfl⟩ | ⟨hh', _⟩
  · exact gatherOk_within (within_updateSeries _ _ _ hf) (gatherOk_within (within_touch r a now) h)
  · exact absurd (hh'.symm.trans hh) Bool.false_ne_true

/-- **Creating a series in an existing vector that has a live child preserves a healthy scrape**: if the
    registry is well-formed and some live series `s0` of the addressed metric has the same label *names* as
    the request, the new series joins `s0`'s vector and inherits its help string. -/
theorem create_in_live_vector_preserves_gather_ok (r r' : Reg V) (hw : RegWF r) (ty : MType) (a : GetArgs V) (now : Int)
    (f : VecM V → Series V → Series V) (hf : ∀ v s, (f v s).labels = s.labels)
    (hg : r.getOrCreate ty a now = .ok (.ok r'))
    (hlive : ∃ m0 s0, m0 ∈ r.metrics ∧ m0.name = a.name ∧ s0 ∈ m0.series ∧ s0.labels.map (·.1) = a.labels.map (·.1))
    (h : r.gatherOk = true) : (updateSeries r' a.name a.labels f).gatherOk = true :=
  gatherOk_within (within_updateSeries _ _ _ hf) (gatherOk_getOrCreate_live_vec hw hg hlive h)

/-- The same through `handleEvent`: any event, applied or not, whose addressed vector (if it reaches the
    registry at all) already has a live child keeps the scrape healthy. -/
theorem handle_event_preserves_gather_ok (p p' : Pipe V) (rx : Rx) (ev : Ev V) (tags : Labels) (hw : RegWF p.reg)
    (h : handleEvent p rx ev tags = some (.ok p'))
    (hlive : ∀ c pl, evTarget p rx ev tags = some (c, pl) →
      ∃ m0 s0, m0 ∈ p.reg.metrics ∧ m0.name = pl.2.1.name ∧ s0 ∈ m0.series ∧
        s0.labels.map (·.1) = pl.2.1.labels.map (·.1))
    (hg : p.reg.gatherOk = true) : p'.reg.gatherOk = true := by
  rcases handleEvent_ok_cases h with ⟨c', rfl, _⟩ | ⟨c, pl, reg, ht, hgc, rfl⟩
  · exact hg
  · exact gatherOk_within (within_updateSeries _ _ _ (evTarget_keeps ht).labels)
      (gatherOk_getOrCreate_live_vec hw hgc (hlive c pl ht) hg)

/-! ## the statsd families never collide by suffix -/

/-- **No suffix collision among the statsd families.** After every history (event batches, sweeps, clock
    changes, reloads, in any order) that starts without statsd metrics — whatever is pre-registered —
    `checkSuffixCollisions` finds nothing among the statsd families that have a series: no family is named
    `x_sum`, `x_count` (or `x_bucket`) next to a summary (histogram) `x`. -/
theorem statsd_families_suffix_free (rx : Rx) (p p' : Pipe V) (ops : List (PipeOp V)) (h0 : p.reg.metrics = [])
    (h : runOps rx p ops = some (.ok p')) :
    suffixCollision ((p'.reg.metrics.filter (!·.series.isEmpty)).map fun m => (m.name, m.ty)) = false :=
  suffixCollision_live_of_suffixFree (gatherInv_of_no_metrics rx ops h0 h).1

/-- the same, read off the families the scrape collects -/
theorem collected_families_suffix_free (rx : Rx) (p p' : Pipe V) (ops : List (PipeOp V)) (h0 : p.reg.metrics = [])
    (h : runOps rx p ops = some (.ok p')) :
    suffixCollision (p'.reg.families.map fun f => (f.name, f.ty)) = false := by
  rw [families_names_types]; exact statsd_families_suffix_free rx p p' ops h0 h

/-- **From the empty registry the scrape can only fail by a help mismatch**: without pre-registered families,
    after every history, `Gather` succeeds iff every statsd family that has a series has one help string. -/
theorem scrape_fails_only_by_help (rx : Rx) (p p' : Pipe V) (ops : List (PipeOp V)) (h0 : p.reg.metrics = [])
    (hpre : p.reg.pre = []) (h : runOps rx p ops = some (.ok p')) :
    p'.reg.gatherOk = (p'.reg.metrics.filter (!·.series.isEmpty)).all helpConsistent :=
  gatherOk_of_suffixFree (gatherInv_of_no_metrics rx ops h0 h).1 (by rw [pre_runOps rx ops h, hpre])

/-! ## one help string per family -/

/-- **All vectors of one metric name carry the same help string.** After every history (event batches, sweeps,
    clock changes, reloads of the mapping configuration, in any order) that starts without statsd metrics —
    whatever is pre-registered: the registry creates every later vector of a name with the help string of the
    name's first vector (`helpFor`), and never removes a vector. -/
theorem help_uniform_history (rx : Rx) (p p' : Pipe V) (ops : List (PipeOp V)) (h0 : p.reg.metrics = [])
    (h : runOps rx p ops = some (.ok p')) : HelpUniform p'.reg :=
  (gatherInv_of_no_metrics rx ops h0 h).2.1

/-- **Every family has one help string**: the first conjunct of `Reg.gatherOk`, after every history from a
    registry without statsd metrics. -/
theorem help_consistent_history (rx : Rx) (p p' : Pipe V) (ops : List (PipeOp V)) (h0 : p.reg.metrics = [])
    (h : runOps rx p ops = some (.ok p')) :
    (p'.reg.metrics.filter (!·.series.isEmpty)).all helpConsistent = true :=
  live_helpConsistent_of_helpUniform (help_uniform_history rx p p' ops h0 h)

/-- **The scrape succeeds after every history** from an empty registry without pre-registered families: no
    help mismatch (`help_consistent_history`), no suffix collision (`statsd_families_suffix_free`), nothing to
    agree with. No assumption on the configuration(s), the events, the clock or the order of operations. -/
theorem scrape_succeeds_without_preregistered (rx : Rx) (p p' : Pipe V) (ops : List (PipeOp V))
    (h0 : p.reg.metrics = []) (hpre : p.reg.pre = []) (h : runOps rx p ops = some (.ok p')) :
    p'.reg.gatherOk = true :=
  have ⟨hs, hh, hp⟩ := gatherInv_of_no_metrics rx ops h0 h
  gatherOk_of_suffixFree_helpUniform hs hh (by rw [hp, hpre])

/-! ## `gatherOk` is not an invariant when families are pre-registered -/

/-- (FALSE on the current code) from a registry without statsd metrics whose pre-registered families scrape
    fine, the scrape succeeds after every history -/
def gather_ok_invariant_statement : Prop :=
  ∀ (V : Type) [NumOps V] (rx : Rx) (p p' : Pipe V) (ops : List (PipeOp V)),
    p.reg.metrics = [] → p.reg.gatherOk = true → runOps rx p ops = some (.ok p') → p'.reg.gatherOk = true

/-- the positive counterpart: restricted to registries without pre-registered families the statement holds
    (the hypothesis `p.reg.gatherOk = true` is not even needed: `scrape_succeeds_without_preregistered`) -/
theorem gather_ok_invariant_without_preregistered :
    ∀ (V : Type) [NumOps V] (rx : Rx) (p p' : Pipe V) (ops : List (PipeOp V)),
      p.reg.metrics = [] → p.reg.pre = [] → p.reg.gatherOk = true → runOps rx p ops = some (.ok p') →
      p'.reg.gatherOk = true :=
  fun _ _ rx p p' ops h0 hpre _ h => scrape_succeeds_without_preregistered rx p p' ops h0 hpre h

/-! ## with pre-registered families -/

/-- a registry without statsd metrics is its pre-registered families and nothing else -/
theorem reg_eq_of_no_metrics {r : Reg V} (h : r.metrics = []) : r = { metrics := [], pre := r.pre } :=
  SE.reg_eq_of_no_metrics h

/-- **The scrape succeeds after every history in which the statsd metric names stay clear of the pre-registered
    families.** From a registry without statsd metrics whose pre-registered families (the exporter's own
    `statsd_exporter_*` metrics, `go_*`, `process_*`, …) scrape fine by themselves (`hp`), after every history (event
    batches, sweeps, clock changes, reloads, in any order): if every metric in the registry `AvoidsPre` the
    pre-registered families — they are the same before and after, `pre_runOps` — then `Gather` succeeds.

    This makes the open finding `preregistered_name_collision` precise: after any history the scrape fails ONLY IF
    some client-chosen (mapped, escaped) metric name coincides with, or is a `_sum`/`_count`/`_bucket` companion of,
    a family another collector exposes — or the other way round (a pre-registered family is named like a companion
    series of a statsd summary or histogram). Nothing else the clients, the mapping configuration(s), the clock or
    the order of operations do can break it. Both kinds of clause are needed: `avoidsPre_violated_by_name_collision`,
    `preregistered_suffix_collision`; and the hypotheses are satisfiable: `avoiding_names_scrape_fine`. -/
theorem scrape_succeeds_if_names_avoid_preregistered (rx : Rx) (p p' : Pipe V) (ops : List (PipeOp V))
    (h0 : p.reg.metrics = []) (hp : p.reg.gatherOk = true) (h : runOps rx p ops = some (.ok p'))
    (hav : ∀ m ∈ p'.reg.metrics, AvoidsPre p'.reg.pre m.name m.ty = true) : p'.reg.gatherOk = true := by
  have ⟨hs, hh, hpre⟩ := gatherInv_of_no_metrics rx ops h0 h
  exact gatherOk_of_invariants_pre hs hh (by rw [hpre, ← reg_eq_of_no_metrics h0]; exact hp) (fun m hm _ => hav m hm)

/-- the same, asking only the metrics that have a series — the families `Gather` actually collects — to stay
    clear of the pre-registered families (a weaker hypothesis: a metric entry whose series were all swept away
    exposes nothing) -/
theorem scrape_succeeds_if_live_names_avoid_preregistered (rx : Rx) (p p' : Pipe V) (ops : List (PipeOp V))
    (h0 : p.reg.metrics = []) (hp : p.reg.gatherOk = true) (h : runOps rx p ops = some (.ok p'))
    (hav : ∀ m ∈ p'.reg.metrics, m.series.isEmpty = false → AvoidsPre p'.reg.pre m.name m.ty = true) :
    p'.reg.gatherOk = true := by
  have ⟨hs, hh, hpre⟩ := gatherInv_of_no_metrics rx ops h0 h
  exact gatherOk_of_invariants_pre hs hh (by rw [hpre, ← reg_eq_of_no_metrics h0]; exact hp) hav

/-- conversely, on any registry: if the scrape succeeds, every statsd family that has a series is clear of the
    companion names of every pre-registered family, and vice versa — the suffix clauses of `AvoidsPre` are
    necessary; the name clause is necessary up to agreement: a pre-registered family of the same name must have the
    same type (`Gather` also asks for the same help string; the statement records the type) -/
theorem scrape_ok_only_if_clear_of_companions (r : Reg V) (h : r.gatherOk = true) :
    ∀ m ∈ r.metrics, m.series.isEmpty = false → ∀ q ∈ r.pre,
      q.1 ∉ companionNames m.name m.ty ∧ m.name ∉ companionNames q.1 q.2.1 ∧ (q.1 = m.name → q.2.1 = m.ty) :=
  fun m hm he q hq => by
    obtain ⟨hpo, hc⟩ := (gatherOk_only_if h).2 m hm he
    -- a pre-registered family of the same name: `preOk` asks for the same type
    exact ⟨(hc q hq).1, (hc q hq).2, fun hn => ((preOk_iff _ _).mp hpo q hq hn).1⟩

section counterexamples
attribute [local instance] toyNumOps

private def noRx : Rx := fun _ _ => none
private def emptyCfg : Config Int :=
  { rules := [], dObserverType := .summary, dTtl := 0, dBuckets := [], dQuantiles := [], dMaxAge := 0,
    dAgeBuckets := 0, dBufCap := 0, orderingDisabled := false, doFSM := false }
/-- the loaded configuration (the examples check that it does load) -/
private def cfgOf (raw : RawConfig Int) : Config Int :=
  match load (fun _ => true) [1, 2] [] raw with
  | .ok c => c
  | .error _ => emptyCfg

/-- does the scrape succeed after the history? -/
private def scrapeAfter (p : Pipe Int) (ops : List (PipeOp Int)) : Option Bool :=
  match runOps noRx p ops with
  | some (.ok p') => some p'.reg.gatherOk
  | _ => none

private theorem scrapeAfter_spec {p : Pipe Int} {ops : List (PipeOp Int)} {b : Bool} (h : scrapeAfter p ops = some b) :
    ∃ p', runOps noRx p ops = some (.ok p') ∧ p'.reg.gatherOk = b := by
  unfold scrapeAfter at h
  split at h
  · next p' hp => exact ⟨p', hp, Option.some.inj h⟩
  · cases h

private def nameX : Bytes := [120]
private def nameXsum : Bytes := strBytes "x_sum"
private def ctr (name : Bytes) : Ev Int := { kind := .counter, name := name, value := 1, relative := false }
private def obs (name : Bytes) : Ev Int := { kind := .observer, name := name, value := 1, relative := false }

/-- two rules mapping `a` and `b` to the same metric `x` with different help strings -/
def rawTwoHelps : RawConfig Int :=
  { rules := [{ matchStr := [97], name := nameX, help := [49] }, { matchStr := [98], name := nameX, help := [50] }] }

example : (load (fun _ => true) [1, 2] [] rawTwoHelps).toBool = true := by decide +kernel

/-- (applied events, and per metric entry its name and the (label names, help) of its vectors) after the history;
    `(0, [])` if the history does not run to the end -/
private def vecsAfter (p : Pipe Int) (ops : List (PipeOp Int)) : Nat × List (Bytes × List (List Bytes × Bytes)) :=
  match runOps noRx p ops with
  | some (.ok p') => (p'.counts.applied, p'.reg.metrics.map fun m => (m.name, m.vecs.map fun v => (v.names, v.help)))
  | _ => (0, [])

/-- **help mismatch repaired** (this history used to break the scrape): `a:1|c` creates `x{}` (vector without
    labels, help "1", the first rule's); `b:1|c|#k:v` creates `x{k="v"}` in a second vector of the same family —
    the second rule says help "2", but the registry creates the vector with the help string of the family's
    first vector, "1". Both events are applied and the scrape succeeds after the first and after the second. -/
theorem help_mismatch_repaired :
    scrapeAfter { mapper := MState.fresh (cfgOf rawTwoHelps) } [.line [] [ctr [97]]] = some true ∧
    scrapeAfter { mapper := MState.fresh (cfgOf rawTwoHelps) }
      [.line [] [ctr [97]], .line [([107], [118])] [ctr [98]]] = some true ∧
    vecsAfter { mapper := MState.fresh (cfgOf rawTwoHelps) }
      [.line [] [ctr [97]], .line [([107], [118])] [ctr [98]]] = (2, [(nameX, [([], [49]), ([[107]], [49])])]) := by
  decide +kernel

/-- **observer companion now refused** (this history used to break the scrape): without rules, observers
    being summaries: the timer `x` creates the summary family `x` (which exposes `x_sum`, `x_count`); the timer
    `x_sum` is now refused as a conflict — `getOrCreate` checks whether a companion name is registered at all,
    and whether the name is a companion name of a registered metric — and the scrape succeeds after both. -/
theorem observer_companion_now_refused :
    scrapeAfter { mapper := MState.fresh emptyCfg } [.line [] [obs nameX]] = some true ∧
    scrapeAfter { mapper := MState.fresh emptyCfg } [.line [] [obs nameX], .line [] [obs nameXsum]] = some true := by
  decide +kernel

/-- **pre-registered name collision**: a family `x` (counter, help "other") is exposed by a collector
    registered before (`Reg.pre`); the statsd counter `x` is accepted — `MetricConflicts` only looks at the
    exporter's own maps — and the scrape fails because the help strings differ. -/
theorem preregistered_name_collision :
    ({ metrics := [], pre := [(nameX, .counter, strBytes "other")] } : Reg Int).gatherOk = true ∧
    scrapeAfter { mapper := MState.fresh emptyCfg, reg := { metrics := [], pre := [(nameX, .counter, strBytes "other")] } }
      [.line [] [ctr nameX]] = some false := by
  decide +kernel

/-- **`gatherOk` is not an invariant of histories** — by the pre-registered name collision, the one class that
    is still open -/
theorem gather_ok_not_invariant : ¬ gather_ok_invariant_statement := by
  intro hst
  obtain ⟨p', hrun, hg⟩ := scrapeAfter_spec preregistered_name_collision.2
  exact Bool.false_ne_true (hg.symm.trans (hst Int noRx _ p' _ rfl preregistered_name_collision.1 hrun))

/-- the refutation needs a pre-registered family and nothing else: no mapping rule at all (without pre-registered
    families the statement holds, `gather_ok_invariant_without_preregistered`). -/
theorem gather_ok_not_invariant' :
    ∃ (p p' : Pipe Int) (ops : List (PipeOp Int)), p.reg.metrics = [] ∧ p.reg.gatherOk = true ∧
      runOps noRx p ops = some (.ok p') ∧ p'.reg.gatherOk = false ∧ p.reg.pre ≠ [] ∧ p.mapper.cfg.rules = [] := by
  obtain ⟨p', hrun, hg⟩ := scrapeAfter_spec preregistered_name_collision.2
  exact ⟨_, p', _, rfl, preregistered_name_collision.1, hrun, hg, nofun, rfl⟩

/-- … and no refutation without one exists -/
theorem no_refutation_without_preregistered :
    ¬ ∃ (p p' : Pipe Int) (ops : List (PipeOp Int)), p.reg.metrics = [] ∧ p.reg.gatherOk = true ∧
      runOps noRx p ops = some (.ok p') ∧ p'.reg.gatherOk = false ∧ p.reg.pre = [] := by
  rintro ⟨p, p', ops, h0, _, hrun, hg, hpre⟩
  exact Bool.false_ne_true (hg.symm.trans (scrape_succeeds_without_preregistered noRx p p' ops h0 hpre hrun))

/-! ### with pre-registered families: both kinds of clause of `AvoidsPre` are needed -/

/-- the open finding violates `AvoidsPre`: the statsd counter `x` of `preregistered_name_collision` has the name of
    the pre-registered family -/
theorem avoidsPre_violated_by_name_collision :
    AvoidsPre [(nameX, .counter, strBytes "other")] nameX .counter = false := by decide +kernel

/-- **pre-registered suffix collision**: a summary family `x` (it exposes `x_sum`, `x_count`) is exposed by a
    collector registered before; it scrapes fine by itself. The statsd counter `x_sum` is accepted — the companion
    checks of `getOrCreate` only look at the exporter's own maps — it violates `AvoidsPre` (by a suffix clause only:
    the names differ), and the scrape fails. So the suffix clauses of `AvoidsPre` are needed too. -/
theorem preregistered_suffix_collision :
    ({ metrics := [], pre := [(nameX, .summary, strBytes "other")] } : Reg Int).gatherOk = true ∧
    AvoidsPre [(nameX, .summary, strBytes "other")] nameXsum .counter = false ∧
    scrapeAfter { mapper := MState.fresh emptyCfg, reg := { metrics := [], pre := [(nameX, .summary, strBytes "other")] } }
      [.line [] [ctr nameXsum]] = some false := by
  decide +kernel

/-- … and the other direction: a pre-registered counter `x_sum` next to the statsd summary `x` (a timer, observers
    being summaries) -/
theorem preregistered_suffix_collision' :
    ({ metrics := [], pre := [(nameXsum, .counter, strBytes "other")] } : Reg Int).gatherOk = true ∧
    AvoidsPre [(nameXsum, .counter, strBytes "other")] nameX .summary = false ∧
    scrapeAfter { mapper := MState.fresh emptyCfg, reg := { metrics := [], pre := [(nameXsum, .counter, strBytes "other")] } }
      [.line [] [obs nameX]] = some false := by
  decide +kernel

/-! ### Non-vacuity of the positive facts -/

/-- pre-registered: the gauge `go_goroutines` and a summary `s` -/
private def preTwo : List (Bytes × MType × Bytes) :=
  [(strBytes "go_goroutines", .gauge, strBytes "h"), (strBytes "s", .summary, strBytes "h")]

/-- (does the scrape succeed, do all metric entries avoid the pre-registered families, the metric names) after the
    history -/
private def avoidAfter (p : Pipe Int) (ops : List (PipeOp Int)) : Option (Bool × Bool × List Bytes) :=
  match runOps noRx p ops with
  | some (.ok p') =>
    some (p'.reg.gatherOk, p'.reg.metrics.all (fun m => AvoidsPre p'.reg.pre m.name m.ty), p'.reg.metrics.map (·.name))
  | _ => none

private theorem avoidAfter_spec {p : Pipe Int} {ops : List (PipeOp Int)} {b : Bool} {ns : List Bytes}
    (h : avoidAfter p ops = some (b, true, ns)) :
    ∃ p', runOps noRx p ops = some (.ok p') ∧ p'.reg.gatherOk = b ∧ p'.reg.metrics.map (·.name) = ns ∧
      ∀ m ∈ p'.reg.metrics, AvoidsPre p'.reg.pre m.name m.ty = true := by
  unfold avoidAfter at h
  split at h
  · rename_i p' hp
    simp only [Option.some.injEq, Prod.mk.injEq] at h
    exact ⟨p', hp, h.1, h.2.2, List.all_eq_true.mp h.2.1⟩
  · cases h

/-- **names that avoid the pre-registered families scrape fine**: next to the pre-registered gauge `go_goroutines`
    and summary `s`, the statsd counters `x` and `s_total` (`s_total` is no companion name of a summary) are
    registered, both avoid the pre-registered families, and the scrape succeeds -/
theorem avoiding_names_scrape_fine :
    AvoidsPre preTwo nameX .counter = true ∧ AvoidsPre preTwo (strBytes "s_total") .counter = true ∧
    avoidAfter { mapper := MState.fresh emptyCfg, reg := { metrics := [], pre := preTwo } }
      [.line [] [ctr nameX], .line [] [ctr (strBytes "s_total")]] = some (true, true, [nameX, strBytes "s_total"]) := by
  decide +kernel

/-- `scrape_succeeds_if_names_avoid_preregistered` is about something: all its hypotheses hold of that history — with
    pre-registered families, two statsd metrics — and it yields the healthy scrape -/
example : ∃ p', runOps noRx { mapper := MState.fresh emptyCfg, reg := { metrics := [], pre := preTwo } }
      [.line [] [ctr nameX], .line [] [ctr (strBytes "s_total")]] = some (.ok p') ∧
      p'.reg.metrics.map (·.name) = [nameX, strBytes "s_total"] ∧ p'.reg.pre = preTwo ∧ p'.reg.gatherOk = true := by
  obtain ⟨p', hrun, _, hn, hav⟩ := avoidAfter_spec avoiding_names_scrape_fine.2.2
  exact ⟨p', hrun, hn, pre_runOps noRx _ hrun,
    scrape_succeeds_if_names_avoid_preregistered noRx _ p' _ rfl (by decide +kernel) hrun hav⟩

/-- `scrape_succeeds_without_preregistered` is about something: its hypotheses hold of the two-help history, which
    runs to the end and leaves a live family with two vectors -/
example : ∃ p', runOps noRx { mapper := MState.fresh (cfgOf rawTwoHelps) }
      [.line [] [ctr [97]], .line [([107], [118])] [ctr [98]]] = some (.ok p') ∧ p'.reg.gatherOk = true := by
  obtain ⟨p', hrun, _⟩ := scrapeAfter_spec help_mismatch_repaired.2.1
  exact ⟨p', hrun, scrape_succeeds_without_preregistered noRx _ p' _ rfl rfl hrun⟩

/-- a history in which the scrape stays healthy: two series of one vector, a sweep, a hit -/
example : scrapeAfter { mapper := MState.fresh emptyCfg }
    [.line [([107], [118])] [ctr nameX], .line [([107], [119])] [ctr nameX], .sweep, .line [([107], [118])] [ctr nameX]]
    = some true := by decide +kernel

/-- the invariants are about something: after `1x:1|c` the registry holds the metric `_1x` -/
example : (match runOps noRx { mapper := MState.fresh emptyCfg } [.line [] [ctr [49, 120]]] with
    | some (.ok p') => p'.reg.metrics.map (·.name) | _ => []) = [[95, 49, 120]] := by decide +kernel

end counterexamples

end SE.Props.C03
