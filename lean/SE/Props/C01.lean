import SE.Proofs.ScrapeKinds
import SE.Proofs.ScrapeLine
import SE.Props.C05
import SE.Spec.FloatLaws
/-
C01 — StatsD lines aggregate to exactly the predicted Prometheus series.

For every mapping configuration and every sequence of events, the registry a scrape reads holds
exactly the series that the StatsD protocol and the mapping rules predict and no others: a counter
is the sum of its increments (each divided by its sample rate), a gauge is its last absolute value
plus the later signed deltas, and a timer/histogram/distribution holds one observation per sample,
repeated floor(1/rate) times (ms converted to seconds), all after the rule's scale factor. Each
series carries the mapped (escaped) name, the metric type, help text, histogram buckets and label set
that its matching rule and the defaults prescribe; events matched by a drop rule leave no series.

The statement is COMPOSITIONAL: the state of one series is the fold of ITS OWN applied updates,
independent of everything else that was processed in between (`series_is_fold_of_own_updates`),
and each update is what the protocol prescribes for the event (`own_updates_are_protocol`,
`counter_is_sum_of_increments`, `gauge_is_last_absolute_plus_deltas`,
`observer_counts_every_observation`). What the line parser hands to the exporter for one sample
is `line_multiplicity`. All theorems hold for every configuration, every regex oracle, every event /
line, every (well-formed) registry state, and every number type `V` with `NumOps V`: "sum" means the
left fold with `NumOps.add` in arrival order, exactly as the code accumulates — nothing is assumed
or proved about IEEE arithmetic.

Vocabulary (SE/Spec/Scrape.lean, SE/Spec/Pipe.lean, SE/Spec/Registry.lean):
* `runEvs rx p evs` — the history `evs : List (Ev V × Labels)` (events with the tags of their line)
  through `handleEvent`, one after the other, from the state `p`; `= some (.ok p')` means no panic and
  nothing outside the modelled fragment. There is NO sweep, clock change or reload inside a history
  (the histories of `handleEvents` and of line-only `runOps` are instances: `histories_are_instances`).
* `touchOf p rx ev tags : Option (Touch V)` — defined iff the event is applied in state `p`
  (`applied_iff_touch`): the series `(name, labels)` it addresses, the metric type it asks for, the update.
* `touches rx p evs` / `trace rx p evs` — the touches of the applied events of the history, in order
  (with the events). `ownUpds name labels ts` / `ownEvents name labels tr` — those addressing `(name, labels)`.
* `specSeries start vec us` — `us` folded over `start`, each update given the vector `vec`.
* `zeroSeries ty vec labels` — the series as created: value zero, count zero, bucket counts zero.
* `Series.sameValue` — equality of labels, `f`, `n`, `bk` (`last` / `ttl` are C07's business).
* `evValue p rx ev` — the sample value after the rule's `scale`; `evType`, `evUpd` — type and update the
  protocol prescribes; `evRawName`, `evLabels`, `evHelp`, `evBounds` — name (before escaping), label map,
  help and histogram bounds the matched rule / the defaults prescribe.

NOT covered here: the quantile values a summary exposes (quantile estimation is not modelled; only
`_sum` and `_count`), and the summary options (objectives, max age, age buckets) of a created vector (they
are in `evPlan`, not restated in `series_identity`); expiry of series (`Reg.sweep`, C07) — a history here contains no sweep, after a
sweep the theorems apply again from the swept state; conflicting events (C08: they are not applied,
hence have no touch and change no series); failures of `Gather` itself (C03). The order in which a
scrape lists families and series is not part of the statement.
-/
namespace SE.Props.C01
open SE NumOps
variable {V : Type} [NumOps V]

/-! ### The compositional theorem -/

/-- A series no applied event addresses is literally unchanged (or still absent). -/
theorem untouched_series_unchanged (rx : Rx) (p p' : Pipe V) (evs : List (Ev V × Labels))
    (hrun : runEvs rx p evs = some (.ok p')) (name : Bytes) (labels : Labels)
    (hno : ∀ t ∈ touches rx p evs, ¬(t.name = name ∧ t.labels = labels)) :
    p'.reg.series? name labels = p.reg.series? name labels := by
  induction evs generalizing p with
  | nil => cases hrun; rfl
  | cons e rest ih =>
    obtain ⟨ev, tags⟩ := e
    obtain ⟨p1, h1, h2⟩ := runEvs_cons_ok hrun
    rw [touches_cons rest h1, List.forall_mem_append] at hno
    rw [ih p1 h2 hno.2]
    cases ht : touchOf p rx ev tags with
    | none => rw [(touchOf_none_reg h1 ht).1]
    | some t => exact touchOf_frame h1 ht (hno.1 t (Option.mem_toList.mpr ht))

/-- **The state of a series is the fold of its own updates.** Run any history from a well-formed state.
    A series `(name, labels)` that did not exist before and exists afterwards
    * was created by the first applied event addressing it (`t0`; there is at least one),
    * belongs to the vector `vec` = the vector `(name, label names)` of the final registry (the one `t0`
      created or found: vectors never change, `series_identity`),
    * and its value (`labels`, `f`, `n`, `bk`) is that of the zero series of `t0`'s type folded with the
      updates of exactly those applied events that address `(name, labels)`, in arrival order.
    Nothing else in the history — events for other series, rejected, dropped, erroneous events — matters. -/
theorem series_is_fold_of_own_updates (rx : Rx) (p p' : Pipe V) (evs : List (Ev V × Labels))
    (hw : RegWF p.reg) (hrun : runEvs rx p evs = some (.ok p'))
    (name : Bytes) (labels : Labels) (s : Series V)
    (hnew : p.reg.series? name labels = none) (hs : p'.reg.series? name labels = some s) :
    ∃ t0 ts vec, (touches rx p evs).filter (·.addresses name labels) = t0 :: ts ∧
      p'.reg.vec? name (labels.map (·.1)) = some vec ∧
      p'.reg.type? name = some t0.ty ∧
      s.sameValue (specSeries (zeroSeries t0.ty vec labels) vec (ownUpds name labels (touches rx p evs))) := by
  obtain ⟨ty, vec, hty, hvec, hfold⟩ := fold_series hw hrun hs
  cases hf : (touches rx p evs).filter (·.addresses name labels) with
  | nil =>
    -- no own touch: the series would be as absent as it was
    rw [untouched_series_unchanged rx p p' evs hrun name labels fun t ht ha =>
      List.filter_eq_nil_iff.mp hf t ht ((addresses_iff t name labels).mpr ha), hnew] at hs
    cases hs
  | cons t0 ts =>
    obtain ⟨hm, ha⟩ := List.mem_filter.mp (hf ▸ List.mem_cons_self : t0 ∈ (touches rx p evs).filter _)
    have e := (touched_exists hrun t0 hm).2
    rw [((addresses_iff t0 name labels).mp ha).1] at e
    cases hty.symm.trans e
    exact ⟨t0, ts, vec, rfl, hvec, e, hfold _ (hnew ▸ Series.sameValue_refl _)⟩

/-- **… and for a series that already exists** with state `s0` (in the vector `vec`): it still exists
    afterwards, and its value is `s0` folded with its own updates. -/
theorem existing_series_is_fold_of_own_updates (rx : Rx) (p p' : Pipe V) (evs : List (Ev V × Labels))
    (hw : RegWF p.reg) (hrun : runEvs rx p evs = some (.ok p'))
    (name : Bytes) (labels : Labels) (s0 : Series V) (hs0 : p.reg.series? name labels = some s0) :
    ∃ vec s, p.reg.vec? name (labels.map (·.1)) = some vec ∧ p'.reg.vec? name (labels.map (·.1)) = some vec ∧
      p'.reg.series? name labels = some s ∧
      s.sameValue (specSeries s0 vec (ownUpds name labels (touches rx p evs))) := by
  obtain ⟨vec, hvec⟩ := hw.vec?_of_series? hs0
  obtain ⟨s, hs⟩ := (runEvs_grows hrun).series hs0
  obtain ⟨_, vec', _, hvec', hfold⟩ := fold_series hw hrun hs
  cases ((runEvs_grows hrun).vec hvec).symm.trans hvec'
  exact ⟨vec, s, hvec, hvec', hs, hfold _ (hs0 ▸ Series.sameValue_refl _)⟩

/-- **Each update is the protocol's.** The updates a series receives are, in order, `evUpd` of the applied
    events addressing it, and `evUpd` is: `counter.Add(value)` for a counter event, `Add(value)` /
    `Set(value)` for a signed / unsigned gauge sample, `Observe(value)` for a timer, histogram or
    distribution sample — with `value = evValue` = the event's value times the matched rule's `scale`, if any.
    The type each of these events asks for is `evType`: from the event kind and, for observers, the rule's
    observer type or the default. -/
theorem own_updates_are_protocol (rx : Rx) (p p' : Pipe V) (evs : List (Ev V × Labels))
    (hrun : runEvs rx p evs = some (.ok p')) (name : Bytes) (labels : Labels) :
    ownUpds name labels (touches rx p evs) = (ownEvents name labels (trace rx p evs)).map (evUpd p rx) ∧
    (∀ et ∈ trace rx p evs, et.2.ty = evType p rx et.1 ∧ et.2.upd = evUpd p rx et.1) ∧
    (∀ ev : Ev V,
      (ev.kind = .counter → evUpd p rx ev = fun _ s => counterAdd s (evValue p rx ev)) ∧
      (ev.kind = .gauge → evUpd p rx ev = fun _ s =>
        if ev.relative then { s with f := add s.f (evValue p rx ev) } else { s with f := evValue p rx ev }) ∧
      (ev.kind = .observer → evUpd p rx ev = fun v s =>
        observe v (evObsTy p rx ev == .histogram) s (evValue p rx ev)) ∧
      (∀ r, evRule p rx ev = some r → ∀ sc, r.scale = some sc → evValue p rx ev = mul ev.value sc) ∧
      (∀ r, evRule p rx ev = some r → r.scale = none → evValue p rx ev = ev.value) ∧
      (evRule p rx ev = none → evValue p rx ev = ev.value)) := by
  refine ⟨ownUpds_touches hrun name labels, trace_spec hrun, fun ev =>
    ⟨fun h => by rw [evUpd, h], fun h => by rw [evUpd, h], fun h => by rw [evUpd, h],
      fun r hr sc hsc => by simp [evValue, hr, hsc], fun r hr hsc => by simp [evValue, hr, hsc],
      fun hr => by simp [evValue, hr]⟩⟩

/-! ### "… exactly the series … and no others" -/

/-- **No other series.** Every series present after the history either was present before or is addressed
    by some applied event of the history. -/
theorem no_other_series (rx : Rx) (p p' : Pipe V) (evs : List (Ev V × Labels))
    (hrun : runEvs rx p evs = some (.ok p')) (name : Bytes) (labels : Labels) (s : Series V)
    (hs : p'.reg.series? name labels = some s) :
    (∃ s0, p.reg.series? name labels = some s0) ∨
    (∃ t ∈ touches rx p evs, t.name = name ∧ t.labels = labels) :=
  Classical.or_iff_not_imp_right.mpr fun h =>
    ⟨s, untouched_series_unchanged rx p p' evs hrun name labels (fun t ht ha => h ⟨t, ht, ha⟩) ▸ hs⟩

/-- **Every predicted series is there.** The series addressed by an applied event exists at the end of the
    history (nothing is removed inside a history), under a name registered with the type the event asked for;
    and every series that existed before still exists. -/
theorem every_touched_series_exposed (rx : Rx) (p p' : Pipe V) (evs : List (Ev V × Labels))
    (hrun : runEvs rx p evs = some (.ok p')) :
    (∀ t ∈ touches rx p evs, (∃ s, p'.reg.series? t.name t.labels = some s) ∧ p'.reg.type? t.name = some t.ty) ∧
    (∀ name labels s0, p.reg.series? name labels = some s0 → ∃ s, p'.reg.series? name labels = some s) :=
  ⟨touched_exists hrun, fun _ _ _ => (runEvs_grows hrun).series⟩

/-- **What a scrape collects is what the registry holds.** On a well-formed registry, `(labels, state)` is
    listed in the collected family `name` of type `ty` iff the registry holds that series under `name` and
    `name` is registered with type `ty`. (So all statements about `Reg.series?` above and below are statements
    about the scrape.) -/
theorem scrape_lists_registry (r : Reg V) (hw : RegWF r) (name : Bytes) (ty : MType) (labels : Labels) (s : Series V) :
    (∃ fam ∈ r.families, fam.name = name ∧ fam.ty = ty ∧ ∃ bs, (labels, s, bs) ∈ fam.series) ↔
      (r.series? name labels = some s ∧ r.type? name = some ty) := by
  constructor
  · rintro ⟨fam, hfam, rfl, rfl, bs, hmem⟩
    obtain ⟨m, hm, _, rfl⟩ := (mem_families r fam).mp hfam
    obtain ⟨s', hs', ⟨⟩⟩ := List.mem_map.mp hmem
    exact ⟨(hw.hasSeries_iff m.name s).mp ⟨m, hm, rfl, hs'⟩, hw.type?_of_mem hm⟩
  · rintro ⟨hs, hty⟩
    obtain ⟨m, hm, rfl, hsm⟩ := hasSeries_of_series? hs
    cases series?_labels hs
    cases (hw.type?_of_mem hm).symm.trans hty
    exact ⟨familyOf m, (mem_families r _).mpr ⟨m, hm, List.isEmpty_eq_false_iff_exists_mem.mpr ⟨s, hsm⟩, rfl⟩,
      rfl, rfl, _, List.mem_map.mpr ⟨s, hsm, rfl⟩⟩

/-- … and next to each listed series the scrape shows the effective bounds of the series' vector (histogram
    buckets), and as the family's help text the help of the vector of the first listed series (all vectors of
    a family agree on the help when `Gather` succeeds: C03 / C08). -/
theorem scrape_bounds_and_help (r : Reg V) (hw : RegWF r) (fam : Family V) (hfam : fam ∈ r.families) :
    (∀ labels s bs, (labels, s, bs) ∈ fam.series →
      bs = ((r.vec? fam.name (labels.map (·.1))).map fun v => effBounds v.bounds).getD []) ∧
    (∀ labels s bs, fam.series.head? = some (labels, s, bs) →
      fam.help = ((r.vec? fam.name (labels.map (·.1))).map (·.help)).getD []) := by
  obtain ⟨m, hm, _, rfl⟩ := (mem_families r fam).mp hfam
  have hvec : ∀ names, r.vec? m.name names = m.vecs.find? (·.names == names) := fun names => by
    rw [Reg.vec?, hw.find_of_mem hm]; rfl
  constructor
  · intro labels s bs hmem
    obtain ⟨s', _, ⟨⟩⟩ := List.mem_map.mp hmem
    show _ = ((r.vec? m.name _).map _).getD []
    rw [hvec]
  · intro labels s bs hhead
    obtain ⟨s0, hh, ⟨⟩⟩ := Option.map_eq_some_iff.mp ((List.head?_map ..).symm.trans hhead)
    show (familyOf m).help = ((r.vec? m.name _).map _).getD []
    rw [hvec, familyOf, hh]

/-- The invariant `RegWF` holds initially and along every history. -/
theorem wf_along_history (rx : Rx) (p p' : Pipe V) (evs : List (Ev V × Labels)) (hw : RegWF p.reg)
    (hrun : runEvs rx p evs = some (.ok p')) : RegWF p'.reg ∧ p'.mapper = p.mapper ∧ p'.now = p.now :=
  runEvs_inv (J := fun q => RegWF q.reg ∧ q.mapper = p.mapper ∧ q.now = p.now)
    (fun hq hs => ⟨RegWF_handleEvent hq.1 hs, (handleEvent_keeps hs).imp (·.trans hq.2.1) (·.trans hq.2.2)⟩)
    ⟨hw, rfl, rfl⟩ hrun

/-- The histories of the other properties are instances: the events of one line (`handleEvents`), and a
    `runOps` history made of lines only. -/
theorem histories_are_instances (rx : Rx) (p : Pipe V) :
    (∀ tags (evs : List (Ev V)), handleEvents p rx tags evs = runEvs rx p (evs.map fun e => (e, tags))) ∧
    (∀ ls : List (Labels × List (Ev V)),
      runOps rx p (ls.map fun l => PipeOp.line l.1 l.2) = runEvs rx p (lineEvs ls)) :=
  ⟨fun tags evs => handleEvents_eq_runEvs rx tags evs p, fun ls => runOps_lines_eq_runEvs rx ls p⟩

/-- **An event matched by a `drop` rule leaves no series**: the registry is returned as it was, the event
    has no touch, and `counts.dropped` goes up by one. -/
theorem drop_leaves_no_series (p : Pipe V) (rx : Rx) (ev : Ev V) (tags : Labels) (r : Rule V)
    (hr : evRule p rx ev = some r) (ha : r.action = .drop) :
    ∃ p', handleEvent p rx ev tags = some (.ok p') ∧ p'.reg = p.reg ∧
      p'.counts.dropped = p.counts.dropped + 1 ∧ p'.counts.applied = p.counts.applied ∧
      touchOf p rx ev tags = none := by
  have hd : evDropped p rx ev = true := by simp [evDropped, hr, ha]
  exact ⟨{ p with counts := { p.counts with dropped := p.counts.dropped + 1 } }, by rw [handleEvent_eq, if_pos hd],
    rfl, rfl, rfl, by rw [touchOf, evTarget, if_pos hd]⟩

/-! ### Per kind -/

/-- the start of the fold: the zero series for a new series, the old state for an existing one -/
def startOf (ty : MType) (vec : VecM V) (labels : Labels) : Option (Series V) → Series V
  | none => zeroSeries ty vec labels
  | some s0 => s0

/-- both cases of the compositional theorem in one statement -/
theorem series_fold (rx : Rx) (p p' : Pipe V) (evs : List (Ev V × Labels))
    (hw : RegWF p.reg) (hrun : runEvs rx p evs = some (.ok p'))
    (name : Bytes) (labels : Labels) (s : Series V) (hs : p'.reg.series? name labels = some s) :
    ∃ ty vec, p'.reg.type? name = some ty ∧ p'.reg.vec? name (labels.map (·.1)) = some vec ∧
      s.sameValue (specSeries (startOf ty vec labels (p.reg.series? name labels)) vec
        (ownUpds name labels (touches rx p evs))) := by
  obtain ⟨ty, vec, hty, hvec, hfold⟩ := fold_series hw hrun hs
  refine ⟨ty, vec, hty, hvec, hfold _ ?_⟩
  cases p.reg.series? name labels <;> exact Series.sameValue_refl _

/-- **A counter is the sum of its increments.** For a series of a metric registered as counter at the end
    of the history, let `vs` be the scaled values of the applied events addressing it, in order. They are all
    counter events with a value that is neither negative nor NaN, and the series state is `counter.Add`
    folded over `vs` from the start state (zero for a new series): the float accumulator `f` is the left sum
    of the non-integral increments, the uint64 accumulator `n` the sum of the integral ones modulo 2^64
    (client_golang keeps the two apart; the exposed value is `f + float64(n)`, see C06). If no increment
    takes the integer path, `f` is the plain left sum of all increments and `n` stays where it was.
    (The division by the sample rate happened in the line parser: `line_multiplicity`.) -/
theorem counter_is_sum_of_increments (rx : Rx) (p p' : Pipe V) (evs : List (Ev V × Labels))
    (hw : RegWF p.reg) (hrun : runEvs rx p evs = some (.ok p'))
    (name : Bytes) (labels : Labels) (s : Series V) (hs : p'.reg.series? name labels = some s)
    (hty : p'.reg.type? name = some .counter) :
    ∃ vec, p'.reg.vec? name (labels.map (·.1)) = some vec ∧
      let own := ownEvents name labels (trace rx p evs)
      let vs := own.map (evValue p rx)
      let start := startOf .counter vec labels (p.reg.series? name labels)
      (∀ ev ∈ own, ev.kind = .counter ∧ isNaN (evValue p rx ev) = false ∧ ltZero (evValue p rx ev) = false) ∧
      s.sameValue (counterFold start vs) ∧
      s.f = sumFrom start.f (vs.filter fun v => !intPath v) ∧
      s.n % two64 = (start.n + (vs.filterMap toUInt64Exact).sum) % two64 ∧
      (start.n < two64 → s.n = (start.n + (vs.filterMap toUInt64Exact).sum) % two64) ∧
      ((∀ v ∈ vs, toUInt64Exact v = none) → s.f = sumFrom start.f vs ∧ s.n = start.n) ∧
      s.bk = start.bk := by
  obtain ⟨vec, hvec, hkind, hfold⟩ := series_typeFold hw hrun hs hty
  refine ⟨vec, hvec, ?_⟩
  intro own vs start
  have hval : s.sameValue (counterFold start vs) := by
    rw [counterFold, List.foldl_map]
    exact hfold start (by unfold start; cases p.reg.series? name labels <;> exact Series.sameValue_refl _)
  refine ⟨fun ev hev => ?_, hval, hval.2.1.trans (counterFold_f ..), ?_,
    fun hlt => hval.2.2.1.trans (counterFold_n _ _ hlt), fun hnone => ?_, hval.2.2.2.trans (counterFold_bk ..)⟩
  · obtain ⟨t, hm, _, _⟩ := mem_ownEvents hev
    -- the event was applied, so it passed the negative / NaN check
    exact ⟨hkind ev hev, trace_nonneg hrun (ev, t) hm (hkind ev hev)⟩
  · rw [hval.2.2.1, counterFold_n_mod]
  · rw [hval.2.1, hval.2.2.1]
    exact counterFold_no_int _ _ hnone

/-- **A gauge is its last absolute value plus the later signed deltas.** For a series of a metric
    registered as gauge at the end of the history, let `ops` be the (signed?, scaled value) pairs of the
    applied events addressing it, in order. They are all gauge events and the value `f` of the series is
    `gaugeSpec ops` of the start value (zero for a new series): a signed sample is added, an unsigned one
    replaces the value. Hence, whenever `ops = pre ++ (false, a) :: deltas` with all `deltas` signed, the
    value is `a` plus the deltas, added in order — whatever came before; with only signed samples it is the
    start value plus the deltas. -/
theorem gauge_is_last_absolute_plus_deltas (rx : Rx) (p p' : Pipe V) (evs : List (Ev V × Labels))
    (hw : RegWF p.reg) (hrun : runEvs rx p evs = some (.ok p'))
    (name : Bytes) (labels : Labels) (s : Series V) (hs : p'.reg.series? name labels = some s)
    (hty : p'.reg.type? name = some .gauge) :
    ∃ vec, p'.reg.vec? name (labels.map (·.1)) = some vec ∧
      let own := ownEvents name labels (trace rx p evs)
      let ops := own.map fun ev => (ev.relative, evValue p rx ev)
      let start := startOf .gauge vec labels (p.reg.series? name labels)
      (∀ ev ∈ own, ev.kind = .gauge) ∧
      s.f = gaugeSpec ops start.f ∧ s.n = start.n ∧ s.bk = start.bk ∧
      (∀ pre a deltas, ops = pre ++ (false, a) :: deltas → (∀ d ∈ deltas, d.1 = true) →
        s.f = sumFrom a (deltas.map (·.2))) ∧
      ((∀ d ∈ ops, d.1 = true) → s.f = sumFrom start.f (ops.map (·.2))) := by
  obtain ⟨vec, hvec, hkind, hfold⟩ := series_typeFold hw hrun hs hty
  refine ⟨vec, hvec, ?_⟩
  intro own ops start
  have hval := hfold start (by unfold start; cases p.reg.series? name labels <;> exact Series.sameValue_refl _)
  rw [gaugeFold_eq vec fun ev => (ev.relative, evValue p rx ev)] at hval
  have hf : s.f = gaugeSpec ops start.f := hval.2.1
  refine ⟨hkind, hf, hval.2.2.1, hval.2.2.2, fun pre a deltas hops hd => ?_,
    fun hd => hf.trans (gaugeSpec_relative _ _ hd)⟩
  rw [hf, hops, gaugeSpec_last_absolute pre deltas a _ hd]

/-- **An observer counts every observation.** For a series of a metric registered as histogram or summary
    at the end of the history, let `xs` be the scaled values of the applied events addressing it, in order
    (one event per repetition: a sample with rate `r` arrives as floor(1/r) events, `line_multiplicity`).
    They are all observer events and the series state is `Observe` folded over `xs`: `_count` goes up by the
    number of observations, `_sum` is the left sum of the observations; for a histogram bucket `i` goes up by
    the number of observations whose `bucketIndex` (w.r.t. the vector's effective bounds) is `i`, the number
    of buckets does not change, and for a new series (one bucket per bound plus `+Inf`) the bucket counts add
    up to the number of observations; for a summary the bucket list stays as it is (empty for a new one). -/
theorem observer_counts_every_observation (rx : Rx) (p p' : Pipe V) (evs : List (Ev V × Labels))
    (hw : RegWF p.reg) (hrun : runEvs rx p evs = some (.ok p'))
    (name : Bytes) (labels : Labels) (s : Series V) (hs : p'.reg.series? name labels = some s)
    (ty : MType) (hty : p'.reg.type? name = some ty) (hobs : ty = .histogram ∨ ty = .summary) :
    ∃ vec, p'.reg.vec? name (labels.map (·.1)) = some vec ∧
      let own := ownEvents name labels (trace rx p evs)
      let xs := own.map (evValue p rx)
      let start := startOf ty vec labels (p.reg.series? name labels)
      (∀ ev ∈ own, ev.kind = .observer) ∧
      s.sameValue (observeFold vec (ty == .histogram) start xs) ∧
      s.n = start.n + xs.length ∧
      s.f = sumFrom start.f xs ∧
      (ty = .summary → s.bk = start.bk) ∧
      (ty = .histogram →
        s.bk.length = start.bk.length ∧
        (∀ i, s.bk[i]? = (start.bk[i]?).map fun c => c + xs.countP fun x => bucketIndex (effBounds vec.bounds) x == i) ∧
        (p.reg.series? name labels = none →
          s.bk.length = (effBounds vec.bounds).length + 1 ∧ s.bk.sum = xs.length)) := by
  obtain ⟨vec, hvec, hkind, hfold⟩ := series_typeFold hw hrun hs hty
  refine ⟨vec, hvec, ?_⟩
  intro own xs start
  have hval : s.sameValue (observeFold vec (ty == .histogram) start xs) := by
    have := hfold start (by unfold start; cases p.reg.series? name labels <;> exact Series.sameValue_refl _)
    rw [observeFold, List.foldl_map]
    rcases hobs with rfl | rfl <;> exact this
  obtain ⟨o1, o2, o3⟩ := observeFold_spec vec (ty == .histogram) start xs
  refine ⟨fun ev hev => ?_, hval, hval.2.2.1.trans o1, hval.2.1.trans o2, ?_, ?_⟩
  · rw [hkind ev hev]
    rcases hobs with rfl | rfl <;> rfl
  · rintro rfl
    exact hval.2.2.2.trans o3
  · rintro rfl
    have hbk : s.bk = (observeFold vec true start xs).bk := hval.2.2.2
    refine ⟨by rw [hbk, observeFold_bk_length], fun i => by rw [hbk, observeFold_bucket], fun hnone => ?_⟩
    have hlen : start.bk.length = (effBounds vec.bounds).length + 1 := by simp [start, hnone, startOf, zeroSeries]
    rw [hbk, observeFold_bk_length, observeFold_bucket_total vec _ _ hlen]
    simp [start, hnone, startOf, zeroSeries]

/-! ### What one sample of a line becomes -/

/-- **Multiplicity and unit conversion.** For a line `name:v|T|@r` (resp. `name:v|T`) whose name no enabled
    tagging style cuts, whose value `v` parses to `x`, and whose fields contain no `|` or `:`; let
    `rate = ParseFloat(r)`, read as 1 when it is 0 (`effRate`):
    * `T = ms`: `int(1/rate)` identical observer events (one without `@r`), each with value `x / 1000`;
    * `T = h`, `T = d`: `int(1/rate)` identical observer events with value `x`;
    * `T = c`: one counter event with value `x / rate` (`x` without `@r`);
    * `T = g`: one gauge event with value `x`, signed iff `v` starts with `+` or `-`; the rate is ignored.
    (`recipInt` is Go's `int(1 / ·)`; `.toNat` makes a negative count an empty loop, as the `for` loop does.) -/
theorem line_multiplicity (fl : ParserFlags) (pf : Pf V) (name v r : Bytes) (x : V) (hn : PlainName fl name)
    (hv : cPipe ∉ v) (hvc : cColon ∉ v) (hr : cPipe ∉ r) (hrc : cColon ∉ r) (hx : pf v = (x, .ok)) :
    let rate := effRate (pf r).1
    (lineToEvents fl pf true (name ++ cColon :: ratedSample v [109, 115] r)).events =
      List.replicate (recipInt rate).toNat ⟨.observer, name, div x thousand, false⟩ ∧
    (lineToEvents fl pf true (name ++ cColon :: ratedSample v [104] r)).events =
      List.replicate (recipInt rate).toNat ⟨.observer, name, x, false⟩ ∧
    (lineToEvents fl pf true (name ++ cColon :: ratedSample v [100] r)).events =
      List.replicate (recipInt rate).toNat ⟨.observer, name, x, false⟩ ∧
    (lineToEvents fl pf true (name ++ cColon :: ratedSample v [99] r)).events =
      [⟨.counter, name, div x rate, false⟩] ∧
    (lineToEvents fl pf true (name ++ cColon :: ratedSample v [103] r)).events =
      [⟨.gauge, name, x, signedValue v⟩] ∧
    (lineToEvents fl pf true (name ++ cColon :: plainSample v [109, 115])).events =
      [⟨.observer, name, div x thousand, false⟩] ∧
    (lineToEvents fl pf true (name ++ cColon :: plainSample v [104])).events = [⟨.observer, name, x, false⟩] ∧
    (lineToEvents fl pf true (name ++ cColon :: plainSample v [100])).events = [⟨.observer, name, x, false⟩] ∧
    (lineToEvents fl pf true (name ++ cColon :: plainSample v [99])).events = [⟨.counter, name, x, false⟩] ∧
    (lineToEvents fl pf true (name ++ cColon :: plainSample v [103])).events = [⟨.gauge, name, x, signedValue v⟩] := by
  have rated := fun {T : Bytes} (hT : cPipe ∉ T ∧ cColon ∉ T) => line_rated_events fl pf hn hv hvc hT.1 hT.2 hr hrc hx
  have plain := fun {T : Bytes} (hT : cPipe ∉ T ∧ cColon ∉ T) => line_plain_events fl pf hn hv hvc hT.1 hT.2 hx
  -- `T` is read off each conjunct, and `emit` of a literal stat type computes
  exact ⟨rated (by decide), rated (by decide), rated (by decide), rated (by decide), rated (by decide),
    plain (by decide), plain (by decide), plain (by decide), plain (by decide), plain (by decide)⟩

/-! ### Identity of the series -/

/-- `Reg.firstHelp?`, the help string a *new* vector of an already known family gets (`series_identity`), spelled
    out: it is the help of the first vector of the metric entry the name resolves to; there is none iff the name
    is not registered or its entry has no vector yet — only then does the event's own help text count. -/
theorem first_help_spec (r : Reg V) (name : Bytes) :
    (∀ h, r.firstHelp? name = some h ↔ ∃ m v rest, r.find name = some m ∧ m.vecs = v :: rest ∧ v.help = h) ∧
    (r.firstHelp? name = none ↔ ∀ m, r.find name = some m → m.vecs = []) ∧
    (r.type? name = none → r.firstHelp? name = none) := by
  refine ⟨firstHelp?_some_iff r name, firstHelp?_none_iff r name, fun h =>
    (firstHelp?_none_iff r name).mpr fun m hm => ?_⟩
  rw [Reg.type?, hm] at h
  cases h

/-- **The series an applied event touches.** If `handleEvent` applies an event on a well-formed registry
    (it is counted in `counts.applied`), the event has a touch `t`, and
    * name: `t.name` is the escaped (`specEscape`) mapped name when a rule matched (`m.name`, the expanded
      `name:` template of the mapper's answer), else the escaped event name; it is not empty before escaping;
    * type: counter / gauge from the event kind; for an observer event histogram or summary according to the
      rule's `observer_type`, or the default when the rule says nothing or no rule matched;
    * labels: `t.labels` is the sorted form of the label map C05 specifies (`C05.specLabels`: the line's tags
      with the rule's labels merged in, see `C05.mergeLabels_spec`);
    * afterwards the series exists with exactly these labels under a name registered with this type, and no
      other series changed;
    * vector: if the vector (name, label names) existed, it is unchanged (help and bounds stay those of the
      event that created it: `getOrCreate` never changes an existing vector); otherwise it is created with
      these label names, help = the help string of the first vector ever created for this metric name
      (`Reg.firstHelp?`, the registry's `helpFor`: one help string per family, whatever later rules or reloaded
      configurations say — `first_help_spec`) or, when the name has no vector yet, the event's help text
      `evHelp` = the rule's help, or the default text `defaultHelp` when the rule has none or no rule matched,
      and — for a histogram — bounds = the rule's buckets if it has histogram options with buckets, else the
      default buckets. -/
theorem series_identity (p p' : Pipe V) (rx : Rx) (ev : Ev V) (tags : Labels) (hw : RegWF p.reg)
    (h : handleEvent p rx ev tags = some (.ok p')) (ha : p'.counts.applied = p.counts.applied + 1) :
    ∃ t, touchOf p rx ev tags = some t ∧
      -- name
      t.name = specEscape (evRawName p rx ev) ∧ evRawName p rx ev ≠ [] ∧
      (∀ m r, evFound p rx ev = some m → evRule p rx ev = some r → m.name = some (evRawName p rx ev)) ∧
      ((evFound p rx ev = none ∨ evRule p rx ev = none) → evRawName p rx ev = ev.name) ∧
      -- type
      t.ty = evType p rx ev ∧
      (ev.kind = .counter → t.ty = .counter) ∧ (ev.kind = .gauge → t.ty = .gauge) ∧
      (ev.kind = .observer → t.ty = if evObsTy p rx ev == .histogram then .histogram else .summary) ∧
      (∀ r, evRule p rx ev = some r → r.observerType ≠ .dflt → evObsTy p rx ev = r.observerType) ∧
      (∀ r, evRule p rx ev = some r → r.observerType = .dflt → evObsTy p rx ev = p.mapper.cfg.dObserverType) ∧
      (evRule p rx ev = none → evObsTy p rx ev = p.mapper.cfg.dObserverType) ∧
      -- labels
      t.labels = (C05.specLabels (p.mapper.lookup rx ev.name (kindIdx ev.kind))
          ((p.mapper.lookup rx ev.name (kindIdx ev.kind)).bind fun m => p.mapper.cfg.rules[m.ruleIdx]?) tags).sorted ∧
      -- the series afterwards
      (∃ s, p'.reg.series? t.name t.labels = some s ∧ s.labels = t.labels) ∧
      p'.reg.type? t.name = some t.ty ∧
      (∀ name labels, ¬(name = t.name ∧ labels = t.labels) → p'.reg.series? name labels = p.reg.series? name labels) ∧
      -- the vector
      (∀ v, p.reg.vec? t.name (t.labels.map (·.1)) = some v → p'.reg.vec? t.name (t.labels.map (·.1)) = some v) ∧
      (p.reg.vec? t.name (t.labels.map (·.1)) = none →
        ∃ v, p'.reg.vec? t.name (t.labels.map (·.1)) = some v ∧ v.names = t.labels.map (·.1) ∧
          v.help = (p.reg.firstHelp? t.name).getD (evHelp p rx ev) ∧
          (t.ty = .histogram → v.bounds = evBounds p rx ev)) ∧
      -- help and bounds, spelled out
      (∀ r, evRule p rx ev = some r → r.help ≠ [] → evHelp p rx ev = r.help) ∧
      (∀ r, evRule p rx ev = some r → r.help = [] → evHelp p rx ev = defaultHelp) ∧
      (evRule p rx ev = none → evHelp p rx ev = defaultHelp) ∧
      (∀ r, evRule p rx ev = some r → r.hasHistOpts = true → r.buckets ≠ [] → evBounds p rx ev = r.buckets) ∧
      (∀ r, evRule p rx ev = some r → (r.hasHistOpts = false ∨ r.buckets = []) →
        evBounds p rx ev = p.mapper.cfg.dBuckets) ∧
      (evRule p rx ev = none → evBounds p rx ev = p.mapper.cfg.dBuckets) := by
  obtain ⟨t, ht⟩ := (applied_iff_touch h).mp ha
  obtain ⟨ity, _, ilabels, iname, iraw⟩ := touchOf_identity ht
  obtain ⟨s, hs⟩ := (touchOf_series h ht).1
  obtain ⟨v1, v2⟩ := touchOf_vec hw h ht
  obtain ⟨e1, e2, e3⟩ := evHelp_spec p rx ev
  -- one line per group of the statement; `evLabels` is `C05.specLabels` of the mapper's answer by definition
  exact ⟨t, ht,
    iname, iraw, fun m r hf hr => evRawName_mapped hf hr iraw, evRawName_unmapped,
    ity, fun hk => by rw [ity, evType, hk], fun hk => by rw [ity, evType, hk], fun hk => by rw [ity, evType, hk],
    fun r hr hne => by simp [evObsTy, hr, hne], fun r hr he => by simp [evObsTy, hr, he], fun hr => by rw [evObsTy, hr],
    ilabels,
    ⟨s, hs, series?_labels hs⟩, (touchOf_series h ht).2,
    fun name labels hne => touchOf_frame h ht fun ⟨a1, a2⟩ => hne ⟨a1.symm, a2.symm⟩,
    v1, v2,
    e1, e2, e3, fun r hr hh hb => by simp [evBounds, hr, hh, hb],
    fun r hr hor => by rcases hor with h' | h' <;> simp [evBounds, hr, h'], fun hr => by rw [evBounds, hr]⟩

/-- The vector a series belongs to is never changed by later events of the history: it keeps the help and
    the bounds of its creating event until the end. -/
theorem vector_fixed_at_creation (rx : Rx) (p p' : Pipe V) (evs : List (Ev V × Labels))
    (hrun : runEvs rx p evs = some (.ok p')) (name : Bytes) (names : List Bytes) (v : VecM V)
    (hv : p.reg.vec? name names = some v) : p'.reg.vec? name names = some v :=
  (runEvs_grows hrun).vec hv

/-! ### Non-vacuity: a concrete history on the toy number type -/

section example_
attribute [local instance] toyNumOps

private def cfg0 : Config Int :=
  { rules := [], dObserverType := .histogram, dTtl := 0, dBuckets := [1, 5], dQuantiles := [], dMaxAge := 0,
    dAgeBuckets := 0, dBufCap := 0, orderingDisabled := false, doFSM := false }
private def p0 : Pipe Int := { mapper := MState.fresh cfg0 }
private def noRx : Rx := fun _ _ => none

private def nx : Bytes := [120]   -- "x"
private def ny : Bytes := [121]   -- "y"
private def nz : Bytes := [122]   -- "z"

/-- `x:3|c`, `y:5|g`, `x:4|c`, `y:+2|g`, `z:3|h`, `z:7|h`, and a refused `x:-1|c` in between -/
private def hist : List (Ev Int × Labels) :=
  [ (⟨.counter, nx, 3, false⟩, []), (⟨.gauge, ny, 5, false⟩, []), (⟨.counter, nx, -1, false⟩, []),
    (⟨.counter, nx, 4, false⟩, []), (⟨.gauge, ny, 2, true⟩, []),
    (⟨.observer, nz, 3, false⟩, []), (⟨.observer, nz, 7, false⟩, []) ]

private def final : Option (Pipe Int) :=
  match runEvs noRx p0 hist with
  | some (.ok p) => some p
  | _ => none

private def valueOf (name : Bytes) : Option (Int × Nat × List Nat) :=
  final.bind fun p => (p.reg.series? name []).map fun s => (s.f, s.n, s.bk)

-- the history runs without panic; six of the seven events are applied, one is refused
example : (final.map fun p => (p.counts.applied, p.counts.errors)) = some (6, [.illegalNegativeCounter]) := by
  decide +kernel
-- the touches: which series, which type, in order
example : (touches noRx p0 hist).map (fun t => (t.name, t.labels, t.ty)) =
    [(nx, [], .counter), (ny, [], .gauge), (nx, [], .counter), (ny, [], .gauge), (nz, [], .histogram), (nz, [], .histogram)] := by
  decide +kernel
-- the counter x = 3 + 4 (integer path), the gauge y = 5 + 2, the histogram z: two observations, sum 10,
-- buckets (≤1, ≤5, +Inf) = (0, 1, 1)
example : valueOf nx = some (0, 7, []) := by decide +kernel
example : valueOf ny = some (7, 0, []) := by decide +kernel
example : valueOf nz = some (10, 2, [0, 1, 1]) := by decide +kernel
-- the fold of the own updates of each series, computed separately, gives the same values: it is non-trivial
-- (two updates each) and independent of the interleaving
private def vec0 : VecM Int := { names := [], help := defaultHelp, bounds := [] }
private def vecH : VecM Int := { names := [], help := defaultHelp, bounds := [1, 5] }
private def foldOf (name : Bytes) (ty : MType) (vec : VecM Int) : Int × Nat × List Nat :=
  let s := specSeries (zeroSeries ty vec []) vec (ownUpds name [] (touches noRx p0 hist))
  (s.f, s.n, s.bk)
example : (ownUpds nx [] (touches noRx p0 hist)).length = 2 ∧ (ownUpds ny [] (touches noRx p0 hist)).length = 2 ∧
    (ownUpds nz [] (touches noRx p0 hist)).length = 2 := by
  decide +kernel
example : foldOf nx .counter vec0 = (0, 7, []) := by decide +kernel
example : foldOf ny .gauge vec0 = (7, 0, []) := by decide +kernel
example : foldOf nz .histogram vecH = (10, 2, [0, 1, 1]) := by decide +kernel
-- no other series: a name nobody addressed is absent
example : valueOf [119] = none := by decide +kernel

-- multiplicity on the toy parser: `x:5|ms|@1` ↦ one event, value 5/1000 = 0; `x:5|c|@2` ↦ one counter event, value 5/2 = 2
example : ((lineToEvents (V := Int) ⟨false, false, false, false⟩ toyPf true
    (nx ++ cColon :: ratedSample [53] [109, 115] [49])).events.map fun e => (e.kind, e.name, e.value, e.relative)) =
    [(.observer, nx, 0, false)] := by
  decide +kernel
example : ((lineToEvents (V := Int) ⟨false, false, false, false⟩ toyPf true
    (nx ++ cColon :: ratedSample [53] [99] [50])).events.map fun e => (e.kind, e.name, e.value, e.relative)) =
    [(.counter, nx, 2, false)] := by
  decide +kernel

end example_

end SE.Props.C01
