import SE.Proofs.RegistryCounter
/-
C06 — Exposed counters never decrease and never become NaN.
A counter series is the pair client_golang keeps: a float accumulator `f` (non-integral increments)
and a uint64 accumulator `n` (integral increments, added modulo 2^64); a scrape exposes
`exposed s = f + float64(n)`. All arithmetic facts are taken from the hypothesis `FloatLaws V`
(SE/Spec/FloatLaws.lean: IEEE-754 facts about `+`, `<=`, `float64(uint64)`), never from axioms.

Proved for every registry, event, label set and configuration:
* a negative or NaN counter sample is refused before it reaches the registry (`bad_increment_rejected`);
* in every reachable state every counter's float accumulator is neither NaN nor negative, hence the
  exposed value is neither NaN nor negative (`counter_inv`, `counter_inv_history`, `exposed_never_nan`);
* one applied counter event does not decrease the exposed value of its series **provided the uint64
  accumulator does not wrap** (`counter_mono_partial`), and leaves every other series alone.
Without that proviso the statement is false on the current code (`counter_mono_statement_false`,
`uint64_wrap_counterexample`): two increments of 2^63 bring the exposed value back to 0. This is the
known uint64 wrap of client_golang's `counter.Add`.

Vocabulary: see SE/Props/C07.lean; `evValue p rx ev` = the sample value after the rule's `scale`;
`PipeOp` / `runOps` (SE/Spec/PipeHistory.lean) = histories of the exporter goroutine: lines of events,
sweeps, clock changes, reloads.
-/
namespace SE.Props.C06
open SE NumOps
variable {V : Type} [NumOps V]

/-- **A bad increment is rejected.** If the (scaled) value of a counter event is negative or NaN, the
    step changes no series — the registry is returned as it was, nothing is counted as applied — and,
    unless the event was dropped by a `drop` rule or had no metric name, `illegalNegativeCounter` is
    appended to the error counter. -/
theorem bad_increment_rejected (p p' : Pipe V) (rx : Rx) (ev : Ev V) (tags : Labels) (hk : ev.kind = .counter)
    (hbad : ltZero (evValue p rx ev) = true ∨ isNaN (evValue p rx ev) = true)
    (h : handleEvent p rx ev tags = some (.ok p')) :
    p'.reg = p.reg ∧ p'.now = p.now ∧ p'.mapper = p.mapper ∧ p'.counts.applied = p.counts.applied ∧
    (evDropped p rx ev = false → (∃ x, evNamed p rx ev tags = some (.ok x)) →
      p'.counts.errors = p.counts.errors ++ [.illegalNegativeCounter]) := by
  have hb : evBadCounter p rx ev = true := by
    unfold evBadCounter
    rw [hk]
    rcases hbad with h1 | h1 <;> simp [h1]
  rcases handleEvent_ok_cases h with ⟨c', e, hc⟩ | ⟨c, pl, reg, ht, _⟩
  · refine ⟨by rw [e], by rw [e], by rw [e], by rw [e]; exact hc, ?_⟩
    intro hd ⟨x, hx⟩
    obtain ⟨nm, l, c⟩ := x
    rw [handleEvent_eq, hd, hx] at h
    simp only [Bool.false_eq_true, if_false, hb, if_true] at h
    injection h with h; injection h with h; subst h
    exact congrArg (· ++ _) (evNamed_counts hx).2.2.1
  · exact nomatch hb.symm.trans (evTarget_spec ht).2.1

/-- The invariant: every series of every counter metric has a float accumulator that is neither NaN nor
    negative (`NonNeg x` = `isNaN x = false ∧ ltZero x = false`). -/
abbrev CounterOk (r : Reg V) : Prop := SE.CounterOk r

/-- **The invariant is inductive**: it holds for the empty registry and is preserved by every event (of any
    kind, with any outcome), by the sweep, and needs only the well-formedness of the registry (which is
    itself invariant, see `C07.wf_invariant`). -/
theorem counter_inv (laws : FloatLaws V) :
    (∀ pre, CounterOk ({ metrics := [], pre := pre } : Reg V)) ∧
    (∀ (p p' : Pipe V) rx ev tags, RegWF p.reg → CounterOk p.reg → handleEvent p rx ev tags = some (.ok p') →
      CounterOk p'.reg) ∧
    (∀ (r : Reg V) now, CounterOk r → CounterOk (r.sweep now)) :=
  ⟨CounterOk_empty, fun _ _ _ _ _ hw hok h => CounterOk_handleEvent laws hw hok h,
   fun _ now hok => CounterOk_sweep hok now⟩

/-- **Hence for every history**: starting from any well-formed state satisfying the invariant (e.g. the
    empty registry), after any sequence of lines, sweeps, clock changes and reloads the invariant holds. -/
theorem counter_inv_history (laws : FloatLaws V) (rx : Rx) (ops : List (PipeOp V)) :
    ∀ (p p' : Pipe V), RegWF p.reg → CounterOk p.reg → runOps rx p ops = some (.ok p') →
      RegWF p'.reg ∧ CounterOk p'.reg := by
  intro p p' hw hok h
  exact ((CounterOk_steps laws rx).runOps ops p (fun _ _ => trivial) ⟨hw, hok⟩).ok h

/-- from the empty registry -/
theorem counter_inv_from_empty (laws : FloatLaws V) (rx : Rx) (ops : List (PipeOp V)) (m : MState V) (now : Int)
    (p' : Pipe V) (h : runOps rx { mapper := m, reg := {}, now := now } ops = some (.ok p')) :
    RegWF p'.reg ∧ CounterOk p'.reg :=
  counter_inv_history laws rx ops _ p' (RegWF_empty []) (CounterOk_empty []) h

/-- **Exposed counters are never NaN (and never negative)**: under the invariant the exposed value
    `f + float64(n)` of every counter series is an ordinary non-negative number. -/
theorem exposed_never_nan (laws : FloatLaws V) (r : Reg V) (hok : CounterOk r) (m : MetricM V) (hm : m ∈ r.metrics)
    (hty : m.ty = .counter) (s : Series V) (hs : s ∈ m.series) :
    isNaN (exposed s) = false ∧ ltZero (exposed s) = false :=
  exposed_ok laws s (hok m hm hty s hs)

/-- One increment, on the series itself: with a non-NaN, non-negative increment and no wrap of the
    integer accumulator the exposed value does not decrease. -/
theorem counterAdd_mono (laws : FloatLaws V) (s : Series V) (v : V) (hs : NonNeg s.f) (hv : NonNeg v)
    (hw : NoIntWrap s v) : le (exposed s) (exposed (counterAdd s v)) = true := by
  unfold counterAdd exposed
  split
  · rename_i k hk
    have : (s.n + k) % two64 = s.n + k := Nat.mod_eq_of_lt (hw k hk)
    simp only [this]
    exact laws.add_mono _ _ _ _ hs hs (laws.ofNat_ok _) (laws.ofNat_ok _) (laws.le_refl _ hs.1)
      (laws.ofNat_mono _ _ (Nat.le_add_right _ _))
  · simp only
    exact laws.add_mono _ _ _ _ hs (laws.add_ok _ _ hs hv) (laws.ofNat_ok _) (laws.ofNat_ok _)
      (laws.le_add _ _ hs hv) (laws.le_refl _ (laws.ofNat_ok _).1)

/-- **Counters never decrease — partial form.** For an applied counter event on a well-formed registry
    satisfying the invariant: if the addressed series existed with state `s0` and the increment does not
    wrap its integer accumulator (`NoIntWrap s0 v`: `s0.n + k < 2^64` when `v` is the integer `k`), then
    afterwards the series exists with a state `s1` whose exposed value is `≥` that of `s0`
    (in fact `s1` is `counterAdd` of `s0` with clock and ttl restarted). Every other series is unchanged. -/
theorem counter_mono_partial (laws : FloatLaws V) (p p' : Pipe V) (rx : Rx) (ev : Ev V) (tags : Labels)
    (hw : RegWF p.reg) (hok : CounterOk p.reg) (hk : ev.kind = .counter)
    (h : handleEvent p rx ev tags = some (.ok p')) (ha : p'.counts.applied = p.counts.applied + 1) :
    ∃ c pl, evTarget p rx ev tags = some (c, pl) ∧
      (∀ s0, p.reg.series? pl.2.1.name pl.2.1.labels = some s0 → NoIntWrap s0 (evValue p rx ev) →
        ∃ s1, p'.reg.series? pl.2.1.name pl.2.1.labels = some s1 ∧
          s1 = counterAdd { s0 with last := p.now, ttl := pl.2.1.ttl } (evValue p rx ev) ∧
          le (exposed s0) (exposed s1) = true) ∧
      (∀ name labels, ¬(name = pl.2.1.name ∧ labels = pl.2.1.labels) →
        p'.reg.series? name labels = p.reg.series? name labels) := by
  obtain ⟨c, pl, reg, ht, hg, e⟩ := handleEvent_applied h ha
  subst e
  obtain ⟨hv, hr, hs⟩ := applied_counter laws hw hok ht hg ((evTarget_counter ht).1.mpr hk)
  refine ⟨c, pl, ht, ?_, fun name labels hne => applied_series_frame ht hg name labels hne⟩
  intro s0 hs0 hnw
  rw [Reg.refreshed, hs0] at hr hs
  exact ⟨_, hs, rfl, counterAdd_mono laws _ _ hr hv hnw⟩

/-- **Every counter, every step.** One step of any kind (counter, gauge, observer) and any outcome (applied,
    refused, dropped, rejected): every counter series that existed before still exists and its exposed
    value has not decreased — provided that, if the step is an increment of that very series, it does not
    wrap the integer accumulator. -/
theorem counter_step_mono (laws : FloatLaws V) (p p' : Pipe V) (rx : Rx) (ev : Ev V) (tags : Labels)
    (hw : RegWF p.reg) (hok : CounterOk p.reg) (h : handleEvent p rx ev tags = some (.ok p'))
    (name : Bytes) (labels : Labels) (s0 : Series V)
    (hty : p.reg.type? name = some .counter) (hs0 : p.reg.series? name labels = some s0)
    (hnw : ∀ c pl, evTarget p rx ev tags = some (c, pl) → name = pl.2.1.name → labels = pl.2.1.labels →
      NoIntWrap s0 (evValue p rx ev)) :
    ∃ s1, p'.reg.series? name labels = some s1 ∧ le (exposed s0) (exposed s1) = true := by
  have hs0ok : NonNeg s0.f := (counterOk_iff hw).mp hok name labels s0 hty hs0
  have hrefl : le (exposed s0) (exposed s0) = true := laws.le_refl _ (exposed_ok laws s0 hs0ok).1
  rcases handleEvent_ok_cases h with ⟨c', e, _⟩ | ⟨c, pl, reg, ht, hg, e⟩
  · subst e; exact ⟨s0, hs0, hrefl⟩
  · subst e
    by_cases hadr : name = pl.2.1.name ∧ labels = pl.2.1.labels
    · obtain ⟨rfl, rfl⟩ := hadr
      -- a registered name is served under its own type, so this is a counter request
      obtain ⟨hv, _, hs⟩ := applied_counter laws hw hok ht hg (getOrCreate_type_eq hg hty).symm
      rw [Reg.refreshed, hs0] at hs
      exact ⟨_, hs, counterAdd_mono laws { s0 with last := p.now, ttl := pl.2.1.ttl } _ hs0ok hv (hnw c pl ht rfl rfl)⟩
    · rw [applied_series_frame ht hg name labels hadr]
      exact ⟨s0, hs0, hrefl⟩

/-- **Every counter, every line.** Along all the events of a line (any mix of kinds and outcomes) an
    existing counter series never decreases, as long as none of its increments wraps (`NoWrapLine`:
    the `NoIntWrap` proviso at each intermediate state). Between lines only the sweep touches the
    registry; it removes a series (which is then recreated from zero, a counter reset in Prometheus'
    sense, see C07) or leaves it unchanged. -/
theorem counter_line_mono (laws : FloatLaws V) (rx : Rx) (tags : Labels) (name : Bytes) (labels : Labels)
    (evs : List (Ev V)) (p p' : Pipe V) (s0 : Series V) (hw : RegWF p.reg) (hok : CounterOk p.reg)
    (hty : p.reg.type? name = some .counter) (hs0 : p.reg.series? name labels = some s0)
    (h : handleEvents p rx tags evs = some (.ok p')) (hnw : NoWrapLine rx tags name labels p evs) :
    ∃ s1, p'.reg.series? name labels = some s1 ∧ le (exposed s0) (exposed s1) = true := by
  induction evs generalizing p s0 with
  | nil =>
    simp only [handleEvents] at h; injection h with h; injection h with h; subst h
    exact ⟨s0, hs0, laws.le_refl _ (exposed_ok laws s0 ((counterOk_iff hw).mp hok name labels s0 hty hs0)).1⟩
  | cons e es ih =>
    simp only [handleEvents] at h
    split at h
    · cases h
    · cases h
    · rename_i p1 h1
      obtain ⟨hnw1, hnw2⟩ := hnw
      obtain ⟨s1, hs1, hle1⟩ := counter_step_mono laws p p1 rx e tags hw hok h1 name labels s0 hty hs0
        (fun c pl ht hn hL => hnw1 c pl s0 ht hn hL hs0)
      obtain ⟨s2, hs2, hle2⟩ := ih p1 s1 (RegWF_handleEvent hw h1) (CounterOk_handleEvent laws hw hok h1)
        ((handleEvent_grows h1).type hty) hs1 h (hnw2 p1 h1)
      exact ⟨s2, hs2, laws.le_trans _ _ _ hle1 hle2⟩

/-! ### The unguarded statement is false: the uint64 accumulator wraps -/

/-- the statement without the `NoIntWrap` proviso -/
def counter_mono_statement : Prop :=
  ∀ (V : Type) [NumOps V], FloatLaws V → ∀ (s : Series V) (v : V), NonNeg s.f → NonNeg v →
    le (exposed s) (exposed (counterAdd s v)) = true

section counterexample
attribute [local instance] toyNumOps

private def two63 : Int := 9223372036854775808

/-- On the toy value type (exact integers, faithful `toUInt64Exact`, `FloatLaws` proved): a counter at
    2^63 incremented by 2^63 is exposed as 0. -/
theorem counter_mono_statement_false : ¬ counter_mono_statement := by
  intro h
  have := h Int toy_floatLaws { labels := [], ttl := 0, last := 0, f := 0, n := 9223372036854775808, bk := [] }
    two63 ⟨rfl, by decide⟩ ⟨rfl, by decide⟩
  revert this
  decide

private def cfg0 : Config Int :=
  { rules := [], dObserverType := .summary, dTtl := 0, dBuckets := [], dQuantiles := [], dMaxAge := 0,
    dAgeBuckets := 0, dBufCap := 0, orderingDisabled := false, doFSM := false }
private def p0 : Pipe Int := { mapper := MState.fresh cfg0 }
private def noRx : Rx := fun _ _ => none
/-- `x:9223372036854775808|c` -/
private def evC : Ev Int := { kind := .counter, name := [120], value := two63, relative := false }

/-- exposed value of counter `x` (no labels) after the events, through the whole exporter -/
private def exposedAfter (evs : List (Ev Int)) : Option Int :=
  match handleEvents p0 noRx [] evs with
  | some (.ok p) => (p.reg.series? [120] []).map exposed
  | _ => none

/-- End to end, from the empty registry: after one event `x:2^63|c` the counter is exposed as 2^63, after
    the same event again as 0 — both events are applied, none is refused. -/
theorem uint64_wrap_counterexample :
    exposedAfter [evC] = some two63 ∧ exposedAfter [evC, evC] = some 0 ∧
    (match handleEvents p0 noRx [] [evC, evC] with
     | some (.ok p) => decide (p.counts.applied = 2 ∧ p.counts.errors = [] ∧ p.counts.conflicts = 0)
     | _ => false) = true := by
  refine ⟨?_, ?_, ?_⟩ <;> with_unfolding_all decide

/- Non-vacuity of the guarded statement on the same type: small increments do go up. -/
example : exposedAfter [{ evC with value := 3 }, { evC with value := 4 }] = some 7 := by decide +kernel
-- a negative increment is refused and leaves the series alone
example : exposedAfter [{ evC with value := 3 }, { evC with value := -1 }] = some 3 := by decide +kernel

end counterexample

end SE.Props.C06
