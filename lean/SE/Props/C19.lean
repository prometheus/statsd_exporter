import SE.Proofs.SafetyLoaded
import SE.Props.C03
/-
C19 — A configuration that loads is safe to run; one that is invalid is rejected.

(a) *Invalid configurations are rejected*: one theorem per class of invalid mapping configuration,
    each for a rule at **any** position of `raw.rules` (`raw.rules = pre ++ r :: post`) and of the form
    `∃ e, load rxOk db dq raw = .error e`. `load` is the model of `InitFromYAMLString` including the
    `UnmarshalYAML` hooks (SE/Model/Mapper.lean); `rxOk` is the oracle "`regexp.Compile` succeeds".
(b) *A safe configuration never panics*: `ConfigSafe cfg` (SE/Proofs/SafetyPipe.lean) says that the
    options the exporter would hand to the histogram / summary constructors — for every non-drop rule and
    for the defaults — are accepted by client_golang: strictly increasing buckets, `MaxAge ≥ 0`, a non-zero
    stream duration, objectives that never index out of range. Under `ConfigSafe`, on a registry whose
    vectors were created under safe configurations (`VecsSafe`), `handleEvent` never yields a `Panic`
    outcome, `VecsSafe` is preserved, and `Gather` does not panic — for single events, lines, and whole
    histories with reloads among safe configurations.
(c) *The loader establishes `ConfigSafe`*: since `InitFromYAMLString` validates the effective bucket lists and
    summary options of the defaults and of every mapping (`validateBuckets`, `validateSummaryOptions`), every
    accepted configuration is `ConfigSafe` (`accepted_config_safe`) — under the hypotheses collected in the
    structure `LoaderAssumptions` (SE/Proofs/SafetyLoaded.lean; hypotheses, not axioms): the IEEE fact that a
    rank in [0, 1] never makes `Query` index out of range (`ObjectiveLaw`) and nothing else (the loader as repaired
    by 2eac18a checks the effective window itself, so no `uint32` typing of `age_buckets` is assumed). Hence a
    loaded configuration never panics (`loaded_config_never_panics`). The four configurations that the old loader
    accepted and that killed the exporter goroutine (unsorted buckets, negative `max_age`, a `max_age` of fewer
    nanoseconds than there are age buckets, an objective outside [0, 1]) are now rejected (`now_rejects_…`), as
    is every configuration of these four kinds — the third widened to every stream duration
    `max_age / age_buckets` below one millisecond, client_golang's defaults (ten minutes, 5) standing in for a
    zero — (`rejects_unsorted_buckets`, `rejects_bad_summary_options` and their variants for the defaults).
(d) *… and every scrape succeeds*: "safe to run" goes beyond "no panic". A configuration that loads can give one
    metric name two help strings (two rules, or a reload); before the registry kept one help string per metric name
    (`helpFor`) every scrape failed after that (SE.Props.C03.help_mismatch_repaired). So from an empty registry
    without pre-registered families `Gather` also returns no error after every history:
    `loaded_config_scrape_succeeds` (the only failure left needs a family registered by another collector under
    the same name: SE.Props.C03.preregistered_name_collision).
-/
namespace SE.Props.C19
open SE

/-! ## (a) invalid configurations are rejected -/

section reject
variable {V : Type} [NumOps V]

/-- `List.mapM` in `Except` (how `load` runs `loadRule` over the rules) fails if some element fails. -/
theorem mapM_fails_if_one_fails {ε α β} (f : α → Except ε β) (pre post : List α) (a : α)
    (h : ∃ e, f a = .error e) : ∃ e, (pre ++ a :: post).mapM f = .error e := by
  obtain ⟨e, he⟩ := h
  refine except_error_of_not_ok fun out hout => ?_
  obtain ⟨b, hb⟩ := mapM_ok_all hout (a := a) (by simp)
  cases he.symm.trans hb

/-- what every rule of an accepted configuration satisfies: the fields of `LoadRuleOk`, for the
    defaults that `load` decoded -/
theorem accepted_rule_facts {rxOk : Bytes → Bool} {db : List V} {dq : List (V × V)} {raw : RawConfig V} {cfg : Config V}
    (h : load rxOk db dq raw = .ok cfg) (r : RawRule V) (hr : r ∈ raw.rules) :
    ∃ dobs0 dtim0 dmt0 obs0 tim0 mt0 act0 mmt,
      optDec decObserverType raw.defaults.observerType = .ok dobs0 ∧
      optDec decObserverType raw.defaults.timerType = .ok dtim0 ∧
      optDec decMatchType raw.defaults.matchType = .ok dmt0 ∧
      optDec decObserverType r.observerType = .ok obs0 ∧
      optDec decObserverType r.timerType = .ok tim0 ∧
      optDec decMatchType r.matchType = .ok mt0 ∧
      optDec decAction r.action = .ok act0 ∧
      optDec decMetricType r.matchMetricType = .ok mmt ∧
      r.labels.all (fun kv => labelNameOk kv.1) = true ∧
      r.name.isEmpty = false ∧ metricNameOk r.name = true ∧
      (mt0.getD (dmt0.getD .glob) = .glob → matchLineOk (splitOn 46 r.matchStr) = true) ∧
      (mt0.getD (dmt0.getD .glob) ≠ .glob → rxOk r.matchStr = true) ∧
      (r.summaryOpts.isSome && r.legacyQuantiles.isSome && sumQuantSet r) = false ∧
      (r.histOpts.isSome && r.legacyBuckets.isSome && histBucketsSet r) = false ∧
      (effObs obs0 tim0 (defaultObs dobs0 dtim0) = .histogram → r.summaryOpts.isSome = false) ∧
      (effObs obs0 tim0 (defaultObs dobs0 dtim0) = .summary → r.histOpts.isSome = false) := by
  obtain ⟨dobs0, dtim0, dmt0, L⟩ := load_ok_inv h
  obtain ⟨_, A⟩ := L.rule hr
  obtain ⟨obs0, f1⟩ := A.observerType
  obtain ⟨tim0, f2⟩ := A.timerType
  obtain ⟨mt0, f3⟩ := A.matchType
  obtain ⟨act0, f4⟩ := A.action
  obtain ⟨mmt, f5⟩ := A.matchMetricType
  have O := A.observer f1 f2
  exact ⟨dobs0, dtim0, dmt0, obs0, tim0, mt0, act0, mmt, L.observerType, L.timerType, L.matchType, f1, f2, f3, f4, f5,
    A.labelKeys, A.nameNonempty, A.nameOk, (A.matchOk f3).1, (A.matchOk f3).2, A.quantilesOnce, A.bucketsOnce,
    O.histNoSummaryOpts, O.summaryNoHistOpts⟩

/-- … and the outcome of `validateBuckets` / `validateSummaryOptions` on its effective options: with `ot` the
    rule's effective observer type, `effBuckets r ot _` (histogram-typed: legacy `buckets`, else
    `histogram_options.buckets`, else the default buckets; otherwise `histogram_options.buckets` as written) is
    strictly increasing if the rule ends up with histogram options (`effHasHist`), and the effective
    quantiles / `max_age` / `age_buckets` pass `summaryOptsOk` if it ends up with summary options. The defaults
    are the effective ones (`effDefBuckets`, `effDefQuantiles`, `defSumOpts`). -/
theorem accepted_rule_options {rxOk : Bytes → Bool} {db : List V} {dq : List (V × V)} {raw : RawConfig V} {cfg : Config V}
    (h : load rxOk db dq raw = .ok cfg) (r : RawRule V) (hr : r ∈ raw.rules) :
    ∃ dobs0 dtim0 obs0 tim0,
      optDec decObserverType raw.defaults.observerType = .ok dobs0 ∧
      optDec decObserverType raw.defaults.timerType = .ok dtim0 ∧
      optDec decObserverType r.observerType = .ok obs0 ∧
      optDec decObserverType r.timerType = .ok tim0 ∧
      (effHasHist r (effObs obs0 tim0 (defaultObs dobs0 dtim0)) &&
        !strictlyIncreasing (effBuckets r (effObs obs0 tim0 (defaultObs dobs0 dtim0)) (effDefBuckets raw db))) = false ∧
      (effHasSum r (effObs obs0 tim0 (defaultObs dobs0 dtim0)) &&
        !summaryOptsOk (effQuantiles r (effObs obs0 tim0 (defaultObs dobs0 dtim0)) (effDefQuantiles raw dq))
          (effMaxAge r (effObs obs0 tim0 (defaultObs dobs0 dtim0)) (defSumOpts raw).maxAge)
          (effAgeB r (effObs obs0 tim0 (defaultObs dobs0 dtim0)) (defSumOpts raw).ageBuckets)) = false := by
  obtain ⟨dobs0, dtim0, _, L⟩ := load_ok_inv h
  obtain ⟨_, A⟩ := L.rule hr
  obtain ⟨obs0, f1⟩ := A.observerType
  obtain ⟨tim0, f2⟩ := A.timerType
  have O := (A.observer f1 f2).opts
  exact ⟨dobs0, dtim0, obs0, tim0, L.observerType, L.timerType, f1, f2, O.bucketsOk, O.summaryOk⟩

variable (rxOk : Bytes → Bool) (db : List V) (dq : List (V × V)) (raw : RawConfig V)
  (pre post : List (RawRule V)) (r : RawRule V) (hr : raw.rules = pre ++ r :: post)
include hr

/-- **label key**: a rule with a label whose name does not match `^[a-zA-Z_][a-zA-Z0-9_]+$` is rejected. -/
theorem rejects_bad_label_key (k v : Bytes) (hk : (k, v) ∈ r.labels) (hbad : labelNameOk k = false) :
    ∃ e, load rxOk db dq raw = .error e :=
  load_error_of_rule hr fun _ A => Bool.false_ne_true (hbad.symm.trans (List.all_eq_true.mp A.labelKeys (k, v) hk))

/-- **empty name**: a rule without a metric name is rejected. -/
theorem rejects_empty_name (hbad : r.name = []) : ∃ e, load rxOk db dq raw = .error e := by
  refine load_error_of_rule hr fun L A => ?_
  have f := A.nameNonempty
  rw [hbad] at f; cases f

/-- **illegal name**: a rule whose metric name fails `metricNameRE` is rejected. -/
theorem rejects_bad_name (hbad : metricNameOk r.name = false) : ∃ e, load rxOk db dq raw = .error e :=
  load_error_of_rule hr fun _ A => Bool.false_ne_true (hbad.symm.trans A.nameOk)

/-- **glob match**: a rule whose effective match type is `glob` (its own `match_type`, `mt`, else that of
    the defaults, `dmt`, else glob) and whose `match` fails `metricLineRE` is rejected. -/
theorem rejects_bad_glob_match (mt dmt : Option MatchTy)
    (hmt : optDec decMatchType r.matchType = .ok mt) (hdmt : optDec decMatchType raw.defaults.matchType = .ok dmt)
    (hglob : mt.getD (dmt.getD .glob) = .glob) (hbad : matchLineOk (splitOn 46 r.matchStr) = false) :
    ∃ e, load rxOk db dq raw = .error e := by
  refine load_error_of_rule hr fun L A => ?_
  cases Except.ok_unique L.matchType hdmt
  exact Bool.false_ne_true (hbad.symm.trans ((A.matchOk hmt).1 hglob))

/-- … in particular with `match_type: glob` on the rule itself, -/
theorem rejects_bad_glob_match_explicit (hty : r.matchType = some (strBytes "glob"))
    (hbad : matchLineOk (splitOn 46 r.matchStr) = false) : ∃ e, load rxOk db dq raw = .error e :=
  load_error_of_rule hr fun _ A =>
    Bool.false_ne_true (hbad.symm.trans ((A.matchOk (mt := some .glob) (by rw [hty]; rfl)).1 rfl))

/-- … and with no `match_type` at all (glob is the default of the default). -/
theorem rejects_bad_glob_match_default (hty : r.matchType = none) (hd : raw.defaults.matchType = none)
    (hbad : matchLineOk (splitOn 46 r.matchStr) = false) : ∃ e, load rxOk db dq raw = .error e :=
  rejects_bad_glob_match rxOk db dq raw pre post r hr none none (by rw [hty]; rfl) (by rw [hd]; rfl) rfl hbad

/-- **regex match**: a rule whose effective match type is `regex` and whose `match` does not compile
    (`rxOk` = `regexp.Compile` succeeds) is rejected. -/
theorem rejects_bad_regex (mt dmt : Option MatchTy)
    (hmt : optDec decMatchType r.matchType = .ok mt) (hdmt : optDec decMatchType raw.defaults.matchType = .ok dmt)
    (hregex : mt.getD (dmt.getD .glob) = .regex) (hbad : rxOk r.matchStr = false) :
    ∃ e, load rxOk db dq raw = .error e := by
  refine load_error_of_rule hr fun L A => ?_
  cases Except.ok_unique L.matchType hdmt
  exact Bool.false_ne_true (hbad.symm.trans ((A.matchOk hmt).2 (by rw [hregex]; decide)))

/-- … in particular with `match_type: regex` on the rule itself. -/
theorem rejects_bad_regex_explicit (hty : r.matchType = some (strBytes "regex")) (hbad : rxOk r.matchStr = false) :
    ∃ e, load rxOk db dq raw = .error e :=
  load_error_of_rule hr fun _ A =>
    Bool.false_ne_true (hbad.symm.trans ((A.matchOk (mt := some .regex) (by rw [hty]; rfl)).2 nofun))

/-- **unknown `match_type`** on a rule (anything but `glob`, `regex` or the empty string) -/
theorem rejects_unknown_match_type (s : Bytes) (hs : r.matchType = some s)
    (h1 : s ≠ strBytes "regex") (h2 : s ≠ strBytes "glob") (h3 : s ≠ []) : ∃ e, load rxOk db dq raw = .error e :=
  load_error_of_rule hr fun _ A => optDec_not_ok hs (decMatchType_unknown s h1 h2 h3) A.matchType

/-- **unknown `action`** on a rule (anything but `map`, `drop` or the empty string) -/
theorem rejects_unknown_action (s : Bytes) (hs : r.action = some s)
    (h1 : s ≠ strBytes "drop") (h2 : s ≠ strBytes "map") (h3 : s ≠ []) : ∃ e, load rxOk db dq raw = .error e :=
  load_error_of_rule hr fun _ A => optDec_not_ok hs (decAction_unknown s h1 h2 h3) A.action

/-- **unknown `match_metric_type`** on a rule (anything but `counter`, `gauge`, `observer`, `timer`) -/
theorem rejects_unknown_match_metric_type (s : Bytes) (hs : r.matchMetricType = some s)
    (h1 : s ≠ strCounter) (h2 : s ≠ strGauge) (h3 : s ≠ strObserver) (h4 : s ≠ strTimer) :
    ∃ e, load rxOk db dq raw = .error e :=
  load_error_of_rule hr fun _ A => optDec_not_ok hs (decMetricType_unknown s h1 h2 h3 h4) A.matchMetricType

/-- **unknown `observer_type`** on a rule (anything but `histogram`, `summary` or the empty string) -/
theorem rejects_unknown_observer_type (s : Bytes) (hs : r.observerType = some s)
    (h1 : s ≠ strBytes "histogram") (h2 : s ≠ strBytes "summary") (h3 : s ≠ []) :
    ∃ e, load rxOk db dq raw = .error e :=
  load_error_of_rule hr fun _ A => optDec_not_ok hs (decObserverType_unknown s h1 h2 h3) A.observerType

/-- **unknown `timer_type`** on a rule -/
theorem rejects_unknown_timer_type (s : Bytes) (hs : r.timerType = some s)
    (h1 : s ≠ strBytes "histogram") (h2 : s ≠ strBytes "summary") (h3 : s ≠ []) :
    ∃ e, load rxOk db dq raw = .error e :=
  load_error_of_rule hr fun _ A => optDec_not_ok hs (decObserverType_unknown s h1 h2 h3) A.timerType

/-- **legacy `quantiles` together with `summary_options.quantiles`** -/
theorem rejects_quantiles_both (lq q : List (V × V)) (a : Int) (b c : Nat)
    (h1 : r.legacyQuantiles = some lq) (h2 : r.summaryOpts = some (some q, a, b, c)) :
    ∃ e, load rxOk db dq raw = .error e := by
  refine load_error_of_rule hr fun L A => ?_
  have f := A.quantilesOnce
  unfold sumQuantSet at f
  rw [h1, h2] at f; cases f

/-- **legacy `buckets` together with `histogram_options.buckets`** -/
theorem rejects_buckets_both (lb b : List V) (h1 : r.legacyBuckets = some lb) (h2 : r.histOpts = some (some b)) :
    ∃ e, load rxOk db dq raw = .error e := by
  refine load_error_of_rule hr fun L A => ?_
  have f := A.bucketsOnce
  unfold histBucketsSet at f
  rw [h1, h2] at f; cases f

/-- **observer type histogram with `summary_options`**, whatever the source of the observer type: the rule's
    `observer_type` (`obs`), else its `timer_type` (`tim`), else the defaults' (`dobs`, `dtim`). -/
theorem rejects_histogram_with_summary_options (obs tim dobs dtim : Option ObsTy)
    (h1 : optDec decObserverType r.observerType = .ok obs) (h2 : optDec decObserverType r.timerType = .ok tim)
    (h3 : optDec decObserverType raw.defaults.observerType = .ok dobs)
    (h4 : optDec decObserverType raw.defaults.timerType = .ok dtim)
    (hty : effObs obs tim (defaultObs dobs dtim) = .histogram)
    (hopts : r.summaryOpts.isSome = true) : ∃ e, load rxOk db dq raw = .error e := by
  refine load_error_of_rule hr fun L A => ?_
  cases Except.ok_unique L.observerType h3
  cases Except.ok_unique L.timerType h4
  rw [(A.observer h1 h2).histNoSummaryOpts hty] at hopts; cases hopts

/-- **observer type summary with `histogram_options`**, whatever the source of the observer type. -/
theorem rejects_summary_with_histogram_options (obs tim dobs dtim : Option ObsTy)
    (h1 : optDec decObserverType r.observerType = .ok obs) (h2 : optDec decObserverType r.timerType = .ok tim)
    (h3 : optDec decObserverType raw.defaults.observerType = .ok dobs)
    (h4 : optDec decObserverType raw.defaults.timerType = .ok dtim)
    (hty : effObs obs tim (defaultObs dobs dtim) = .summary)
    (hopts : r.histOpts.isSome = true) : ∃ e, load rxOk db dq raw = .error e := by
  refine load_error_of_rule hr fun L A => ?_
  cases Except.ok_unique L.observerType h3
  cases Except.ok_unique L.timerType h4
  rw [(A.observer h1 h2).summaryNoHistOpts hty] at hopts; cases hopts

/-- … in particular `observer_type: histogram` on the rule itself with `summary_options` (no assumption on
    the defaults: if they do not decode the configuration is rejected anyway), -/
theorem rejects_explicit_histogram_with_summary_options (hty : r.observerType = some (strBytes "histogram"))
    (hopts : r.summaryOpts.isSome = true) : ∃ e, load rxOk db dq raw = .error e := by
  refine load_error_of_rule hr fun L A => ?_
  obtain ⟨tim, h2⟩ := A.timerType
  rw [(A.observer (obs := some .histogram) (by rw [hty]; rfl) h2).histNoSummaryOpts rfl] at hopts; cases hopts

/-- … and `observer_type: summary` on the rule itself with `histogram_options`. -/
theorem rejects_explicit_summary_with_histogram_options (hty : r.observerType = some (strBytes "summary"))
    (hopts : r.histOpts.isSome = true) : ∃ e, load rxOk db dq raw = .error e := by
  refine load_error_of_rule hr fun L A => ?_
  obtain ⟨tim, h2⟩ := A.timerType
  rw [(A.observer (obs := some .summary) (by rw [hty]; rfl) h2).summaryNoHistOpts rfl] at hopts; cases hopts

/-- **buckets not strictly increasing**: a rule that ends up with histogram options — it is histogram-typed
    (`observer_type` / `timer_type` of the rule or of the defaults), or it has `histogram_options` — and whose
    effective bucket list (legacy `buckets`, `histogram_options.buckets`, or the effective default buckets,
    see `effBuckets`) is not strictly increasing is rejected (`validateBuckets`). -/
theorem rejects_unsorted_buckets (obs tim dobs dtim : Option ObsTy)
    (h1 : optDec decObserverType r.observerType = .ok obs) (h2 : optDec decObserverType r.timerType = .ok tim)
    (h3 : optDec decObserverType raw.defaults.observerType = .ok dobs)
    (h4 : optDec decObserverType raw.defaults.timerType = .ok dtim)
    (hhist : effHasHist r (effObs obs tim (defaultObs dobs dtim)) = true)
    (hbad : strictlyIncreasing (effBuckets r (effObs obs tim (defaultObs dobs dtim)) (effDefBuckets raw db)) = false) :
    ∃ e, load rxOk db dq raw = .error e := by
  refine load_error_of_rule hr fun L A => ?_
  cases Except.ok_unique L.observerType h3
  cases Except.ok_unique L.timerType h4
  have f := (A.observer h1 h2).opts.bucketsOk
  rw [hhist, hbad] at f; cases f

/-- … in particular `histogram_options: {buckets: b}` with a non-empty `b` that is not strictly increasing,
    whatever the observer type and the defaults (no assumption on the rest of the configuration). -/
theorem rejects_unsorted_histogram_options (b : List V) (hopts : r.histOpts = some (some b)) (hne : b.isEmpty = false)
    (hbad : strictlyIncreasing b = false) : ∃ e, load rxOk db dq raw = .error e := by
  refine load_error_of_rule hr fun L A => ?_
  obtain ⟨obs0, h1⟩ := A.observerType
  obtain ⟨tim0, h2⟩ := A.timerType
  have f := (A.observer h1 h2).opts.bucketsOk
  have fb := A.bucketsOnce
  unfold histBucketsSet at fb
  cases hl : r.legacyBuckets with
  | some lb => rw [hopts, hl] at fb; cases fb
  | none =>
    -- without legacy `buckets` both branches of `effHasHist` / `effBuckets` agree: `b` is validated whatever the type
    simp only [effHasHist, effBuckets, legacyOrRawBuckets, rawBuckets, hopts, hl, hne, hbad, ite_self, Option.isSome_some,
      Bool.false_eq_true, if_false, Bool.not_false, Bool.and_true] at f
    cases f

/-- **invalid summary options**: a rule that ends up with summary options — it is summary-typed, or it has
    `summary_options` — and whose effective quantiles / `max_age` / `age_buckets` (its own, else the effective
    defaults', see `effQuantiles`, `effMaxAge`, `effAgeB`) fail `validateSummaryOptions` (a rank outside [0, 1],
    a negative `max_age`, or a stream duration `max_age / age_buckets` below one millisecond, where a zero stands
    for client_golang's default: ten minutes, 5 buckets) is rejected. -/
theorem rejects_bad_summary_options (obs tim dobs dtim : Option ObsTy)
    (h1 : optDec decObserverType r.observerType = .ok obs) (h2 : optDec decObserverType r.timerType = .ok tim)
    (h3 : optDec decObserverType raw.defaults.observerType = .ok dobs)
    (h4 : optDec decObserverType raw.defaults.timerType = .ok dtim)
    (hsum : effHasSum r (effObs obs tim (defaultObs dobs dtim)) = true)
    (hbad : summaryOptsOk (effQuantiles r (effObs obs tim (defaultObs dobs dtim)) (effDefQuantiles raw dq))
      (effMaxAge r (effObs obs tim (defaultObs dobs dtim)) (defSumOpts raw).maxAge)
      (effAgeB r (effObs obs tim (defaultObs dobs dtim)) (defSumOpts raw).ageBuckets) = false) :
    ∃ e, load rxOk db dq raw = .error e := by
  refine load_error_of_rule hr fun L A => ?_
  cases Except.ok_unique L.observerType h3
  cases Except.ok_unique L.timerType h4
  have f := (A.observer h1 h2).opts.summaryOk
  rw [hsum, hbad] at f; cases f

/-- … in particular `summary_options` with a negative `max_age`, whatever the observer type and the defaults. -/
theorem rejects_negative_max_age (q : Option (List (V × V))) (a : Int) (b c : Nat)
    (hopts : r.summaryOpts = some (q, a, b, c)) (hneg : a < 0) : ∃ e, load rxOk db dq raw = .error e := by
  refine load_error_of_rule hr fun L A => ?_
  obtain ⟨obs0, h1⟩ := A.observerType
  obtain ⟨tim0, h2⟩ := A.timerType
  have f := (A.observer h1 h2).opts.summaryOk
  -- as `a ≠ 0`, both branches of `effHasSum` / `effMaxAge` agree: `a` is validated whatever the type
  simp only [effHasSum, effMaxAge, rawMaxAge, hopts, beq_false_of_ne (Int.ne_of_lt hneg), ite_self, Option.isSome_some,
    Bool.false_eq_true, if_false, Bool.true_and, Bool.not_eq_eq_eq_not, Bool.not_false] at f
  exact Int.not_le.mpr hneg ((summaryOptsOk_iff _ _ _).mp f).2.1

omit hr

/-- **unknown `observer_type` in the defaults** -/
theorem rejects_unknown_default_observer_type (s : Bytes) (hs : raw.defaults.observerType = some s)
    (h1 : s ≠ strBytes "histogram") (h2 : s ≠ strBytes "summary") (h3 : s ≠ []) :
    ∃ e, load rxOk db dq raw = .error e :=
  load_error_of fun L => optDec_not_ok hs (decObserverType_unknown s h1 h2 h3) ⟨_, L.observerType⟩

/-- **unknown `timer_type` in the defaults** -/
theorem rejects_unknown_default_timer_type (s : Bytes) (hs : raw.defaults.timerType = some s)
    (h1 : s ≠ strBytes "histogram") (h2 : s ≠ strBytes "summary") (h3 : s ≠ []) :
    ∃ e, load rxOk db dq raw = .error e :=
  load_error_of fun L => optDec_not_ok hs (decObserverType_unknown s h1 h2 h3) ⟨_, L.timerType⟩

/-- **unknown `match_type` in the defaults** -/
theorem rejects_unknown_default_match_type (s : Bytes) (hs : raw.defaults.matchType = some s)
    (h1 : s ≠ strBytes "regex") (h2 : s ≠ strBytes "glob") (h3 : s ≠ []) :
    ∃ e, load rxOk db dq raw = .error e :=
  load_error_of fun L => optDec_not_ok hs (decMatchType_unknown s h1 h2 h3) ⟨_, L.matchType⟩

/-- **default buckets not strictly increasing**: the effective default buckets — the defaults'
    `histogram_options.buckets`, else their legacy `buckets`, else the library's `db` — are validated as well. -/
theorem rejects_unsorted_default_buckets (hbad : strictlyIncreasing (effDefBuckets raw db) = false) :
    ∃ e, load rxOk db dq raw = .error e :=
  load_error_of fun L => Bool.false_ne_true (hbad.symm.trans L.bucketsOk)

/-- **invalid default summary options**: the effective default quantiles (the defaults' `summary_options.quantiles`,
    else their legacy `quantiles`, else the exporter's `dq`), `max_age` and `age_buckets` are validated as well. -/
theorem rejects_bad_default_summary_options
    (hbad : summaryOptsOk (effDefQuantiles raw dq) (defSumOpts raw).maxAge (defSumOpts raw).ageBuckets = false) :
    ∃ e, load rxOk db dq raw = .error e :=
  load_error_of fun L => Bool.false_ne_true (hbad.symm.trans L.summaryOk)

end reject

/-! ## (b) a safe configuration never panics -/

section safe
variable {V : Type} [NumOps V]

/-- The empty registry (with any pre-registered families) is safe. -/
theorem vecs_safe_empty (pre : List (Bytes × MType × Bytes)) : VecsSafe ({ metrics := [], pre := pre } : Reg V) :=
  VecsSafe_empty pre

/-- The stale-series sweep keeps the registry safe. -/
theorem vecs_safe_sweep (r : Reg V) (now : Int) (h : VecsSafe r) : VecsSafe (r.sweep now) :=
  h.entriesOf (entriesOf_sweep r now)

/-- **A safe configuration never panics.** If the current configuration is `ConfigSafe` and every existing
    vector was created under a safe configuration (`VecsSafe`), then for every event, every tag set and every
    regex oracle `handleEvent` does not end in a `Panic` outcome (constructor panic or `summaryHang`). -/
theorem config_safe_never_panics (p : Pipe V) (rx : Rx) (ev : Ev V) (tags : Labels)
    (hc : ConfigSafe p.mapper.cfg) (hv : VecsSafe p.reg) (pn : Panic) :
    handleEvent p rx ev tags ≠ some (.error pn) :=
  ((Safe_steps rx).event p ev tags ⟨hc, hv⟩).no_panic pn

/-- … and the registry it leaves is safe again (so is the unchanged configuration). -/
theorem vecs_safe_preserved (p p' : Pipe V) (rx : Rx) (ev : Ev V) (tags : Labels)
    (hc : ConfigSafe p.mapper.cfg) (hv : VecsSafe p.reg) (h : handleEvent p rx ev tags = some (.ok p')) :
    VecsSafe p'.reg ∧ ConfigSafe p'.mapper.cfg :=
  (((Safe_steps rx).event p ev tags ⟨hc, hv⟩).ok h).symm

/-- All events of a line. -/
theorem config_safe_events_never_panic (p : Pipe V) (rx : Rx) (tags : Labels) (evs : List (Ev V))
    (hc : ConfigSafe p.mapper.cfg) (hv : VecsSafe p.reg) :
    (∀ pn, handleEvents p rx tags evs ≠ some (.error pn)) ∧
    (∀ p', handleEvents p rx tags evs = some (.ok p') → VecsSafe p'.reg ∧ ConfigSafe p'.mapper.cfg) :=
  have ho := (Safe_steps rx).handleEvents tags evs p ⟨hc, hv⟩
  ⟨ho.no_panic, fun _ h => (ho.ok h).symm⟩

/-- **Whole histories**: event batches, sweeps, clock changes and configuration reloads in any order. If the
    initial configuration and every reloaded one is safe (`OpsSafe`) and the initial registry is safe (for
    instance empty), the history never ends in a `Panic` outcome, and the final state is safe. -/
theorem config_safe_history_never_panics (rx : Rx) (p : Pipe V) (ops : List (PipeOp V))
    (hc : ConfigSafe p.mapper.cfg) (hv : VecsSafe p.reg) (hs : OpsSafe ops) :
    (∀ pn, runOps rx p ops ≠ some (.error pn)) ∧
    (∀ p', runOps rx p ops = some (.ok p') → VecsSafe p'.reg ∧ ConfigSafe p'.mapper.cfg) :=
  have ho := (Safe_steps rx).runOps ops p hs ⟨hc, hv⟩
  ⟨ho.no_panic, fun _ h => (ho.ok h).symm⟩

/-- **`Gather` does not panic on a safe registry** (no summary objective indexes out of range). -/
theorem config_safe_gather_never_panics (r : Reg V) (h : VecsSafe r) : r.gatherPanics = false := by
  unfold Reg.gatherPanics
  simp only [List.any_eq_false, Bool.and_eq_true, beq_iff_eq, not_and, Bool.not_eq_true]
  intro m hm hty s _
  split
  · rename_i v hv
    have hs := (h m hm v (List.mem_of_find?_eq_some hv)).2 hty
    exact List.any_eq_false.mpr fun q hq => ne_true_of_eq_false (hs.objectives s.n q hq)
  · rfl

/-- … hence after every history among safe configurations. -/
theorem history_gather_never_panics (rx : Rx) (p p' : Pipe V) (ops : List (PipeOp V))
    (hc : ConfigSafe p.mapper.cfg) (hv : VecsSafe p.reg) (hs : OpsSafe ops)
    (h : runOps rx p ops = some (.ok p')) : p'.reg.gatherPanics = false :=
  config_safe_gather_never_panics _ ((config_safe_history_never_panics rx p ops hc hv hs).2 p' h).1

/-- `ConfigSafe` is the decidable check `configOk` (buckets strictly increasing, `MaxAge ≥ 0`, non-zero
    stream duration, for every non-drop rule and the defaults) plus the one undecidable-in-general part:
    the objectives of every summary-typed option set never index out of range. -/
theorem config_safe_iff (cfg : Config V) :
    ConfigSafe cfg ↔ configOk cfg = true ∧
      (∀ r, r ∈ cfg.rules → r.action ≠ .drop → ruleObsTy cfg r ≠ .histogram → ObjectivesSafe (ruleObjectives cfg r)) ∧
      (cfg.dObserverType ≠ .histogram → ObjectivesSafe (cfg.dQuantiles.map (·.1))) := by
  have hs : ConfigSafe cfg ↔ _ ∧ _ := ⟨fun h => ⟨h.rules, h.defaults⟩, fun h => ⟨h.1, h.2⟩⟩
  rw [hs]
  unfold configOk
  simp only [observerSafe_iff, Bool.and_eq_true, List.all_eq_true, Bool.or_eq_true, beq_iff_eq]
  -- both sides say the same of every rule and of the defaults; a drop rule passes `configOk` unexamined
  constructor
  · intro ⟨hr, hd⟩
    exact ⟨⟨fun r m => (Decidable.em _).imp_right fun d => (hr r m d).1, hd.1⟩, fun r m d => (hr r m d).2, hd.2⟩
  · intro ⟨⟨h1, h2⟩, h3, h4⟩
    exact ⟨fun r m d => ⟨(h1 r m).resolve_left d, h3 r m d⟩, h2, h4⟩

/-- What "objectives safe" means arithmetically: it suffices that `ceil(l·q)` lies in `[0, l]` for every sample
    count `l` — which IEEE arithmetic gives for every rank `q ∈ [0, 1]`. -/
theorem objectives_safe_of_ceil_bounds (objs : List V)
    (h : ∀ (l : Nat) (q : V), q ∈ objs → 0 ≤ NumOps.ceilMul l q ∧ NumOps.ceilMul l q ≤ (l : Int)) :
    ObjectivesSafe objs := by
  intro l q hq
  obtain ⟨h0, h1⟩ := h l q hq
  unfold queryPanics
  simp only [Bool.and_eq_false_imp, decide_eq_true_eq, Bool.or_eq_false_iff, decide_eq_false_iff_not]
  intro hl
  split <;> omega

end safe

/-! ## (c) the loader establishes `ConfigSafe` -/

section accepted
variable {V : Type} [NumOps V]

/-- **Every configuration the loader accepts is safe to run.** `LoaderAssumptions raw` (a structure of
    hypotheses, SE/Proofs/SafetyLoaded.lean) asks for
    * `objectiveLaw : ObjectiveLaw V` — for every rank `q` with `q ≥ 0` and `q ≤ 1` and every sample count `l`,
      `queryPanics l q = false` (IEEE: `ceil(l·q) ∈ [0, l]`);
      (no `uint32` hypothesis about `age_buckets`: since the repair 2eac18a the loader checks the effective window
      itself).
    Nothing is assumed about the library defaults `db`, `dq`: the loader validates the effective defaults. -/
theorem accepted_config_safe (rxOk : Bytes → Bool) (db : List V) (dq : List (V × V)) (raw : RawConfig V) (cfg : Config V)
    (ha : LoaderAssumptions raw) (h : load rxOk db dq raw = .ok cfg) : ConfigSafe cfg :=
  load_configSafe ha h

/-- what the loader validated, without any assumption on the number type: all bucket lists the exporter can use
    are strictly increasing, all summary option sets it can use pass `summaryOptsOk` -/
theorem accepted_config_validated (rxOk : Bytes → Bool) (db : List V) (dq : List (V × V)) (raw : RawConfig V) (cfg : Config V)
    (h : load rxOk db dq raw = .ok cfg) : ConfigValidated cfg :=
  load_validated h

/-- **Every summary a loaded configuration can create steps its buffers by at least a millisecond**: the defaults and
    every rule with summary options of its own have `max_age / age_buckets ≥ 1ms` (library defaults filled in). This is
    the range in which the model's "`Observe` and `Gather` return" is faithful to client_golang's catch-up loop
    (elapsed / stream duration iterations); between 1ns and 1ms the loop is slow to practically endless, and no loaded
    configuration gets there. -/
theorem loaded_stream_duration_ge_1ms (rxOk : Bytes → Bool) (db : List V) (dq : List (V × V)) (raw : RawConfig V) (cfg : Config V)
    (h : load rxOk db dq raw = .ok cfg) :
    minStreamDuration ≤ streamDuration cfg.dMaxAge cfg.dAgeBuckets ∧
    ∀ r, r ∈ cfg.rules → r.hasSummaryOpts = true → minStreamDuration ≤ streamDuration r.maxAge r.ageBuckets := by
  have hv := load_validated h
  exact ⟨((summaryOptsOk_iff _ _ _).mp hv.dSummary).2.2, fun r hr' hs => ((summaryOptsOk_iff _ _ _).mp (hv.ruleSummary r hr' hs)).2.2⟩

/-- **A loaded configuration never panics.** Let `cfg` be accepted by the loader (under `LoaderAssumptions`), be
    the current configuration of a pipeline whose registry is safe (`VecsSafe`: for instance empty, or left by
    earlier runs under loaded configurations). Then no event, no line and no history — with sweeps, clock
    changes and reloads among loaded configurations (`OpsLoaded`) — ends in a `Panic` outcome, and `Gather` does
    not panic after any such history. -/
theorem loaded_config_never_panics (rxOk : Bytes → Bool) (db : List V) (dq : List (V × V)) (raw : RawConfig V) (cfg : Config V)
    (ha : LoaderAssumptions raw) (h : load rxOk db dq raw = .ok cfg)
    (p : Pipe V) (hp : p.mapper.cfg = cfg) (hv : VecsSafe p.reg) (rx : Rx) :
    (∀ ev tags pn, handleEvent p rx ev tags ≠ some (.error pn)) ∧
    (∀ tags evs pn, handleEvents p rx tags evs ≠ some (.error pn)) ∧
    (∀ ops, OpsLoaded ops →
      (∀ pn, runOps rx p ops ≠ some (.error pn)) ∧
      (∀ p', runOps rx p ops = some (.ok p') → p'.reg.gatherPanics = false)) ∧
    p.reg.gatherPanics = false := by
  subst hp
  have hc := load_configSafe ha h
  exact ⟨fun ev tags => config_safe_never_panics p rx ev tags hc hv,
    fun tags evs => (config_safe_events_never_panic p rx tags evs hc hv).1,
    fun ops ho => ⟨(config_safe_history_never_panics rx p ops hc hv ho.opsSafe).1,
      fun p' => history_gather_never_panics rx p p' ops hc hv ho.opsSafe⟩,
    config_safe_gather_never_panics p.reg hv⟩

/-- … in particular from the start of the process: a freshly loaded mapper and an empty registry. -/
theorem loaded_config_never_panics_from_start (rxOk : Bytes → Bool) (db : List V) (dq : List (V × V)) (raw : RawConfig V)
    (cfg : Config V) (ha : LoaderAssumptions raw) (h : load rxOk db dq raw = .ok cfg)
    (pre : List (Bytes × MType × Bytes)) (rx : Rx) (ops : List (PipeOp V)) (ho : OpsLoaded ops) :
    (∀ pn, runOps rx { mapper := MState.fresh cfg, reg := { metrics := [], pre := pre } } ops ≠ some (.error pn)) ∧
    (∀ p', runOps rx { mapper := MState.fresh cfg, reg := { metrics := [], pre := pre } } ops = some (.ok p') →
      p'.reg.gatherPanics = false) :=
  (loaded_config_never_panics rxOk db dq raw cfg ha h _ rfl (vecs_safe_empty pre) rx).2.2.1 ops ho

/-- **A loaded configuration is safe to run, scrapes included.** From the start of the process — a freshly loaded
    mapper, an empty registry, no family pre-registered under a statsd name (`pre := []`) — no history (event
    batches, sweeps, clock changes, reloads among loaded configurations, in any order) ends in a panic, and after
    every such history `Gather` neither panics nor returns an error: no two help strings for one family (the
    registry's `helpFor`, `HelpUniform`), no `_sum/_count/_bucket` suffix collision (`SuffixFree`). Two rules that
    map to one metric name with different help strings, or a reload that changes a help string, are harmless: the
    first help string of the name stays. (The `gatherOk` part needs neither `LoaderAssumptions` nor `OpsLoaded`:
    it holds for every configuration and every history, SE.Props.C03.scrape_succeeds_without_preregistered.) -/
theorem loaded_config_scrape_succeeds (rxOk : Bytes → Bool) (db : List V) (dq : List (V × V)) (raw : RawConfig V)
    (cfg : Config V) (ha : LoaderAssumptions raw) (h : load rxOk db dq raw = .ok cfg)
    (rx : Rx) (ops : List (PipeOp V)) (ho : OpsLoaded ops) :
    (∀ pn, runOps rx { mapper := MState.fresh cfg, reg := { metrics := [], pre := [] } } ops ≠ some (.error pn)) ∧
    (∀ p', runOps rx { mapper := MState.fresh cfg, reg := { metrics := [], pre := [] } } ops = some (.ok p') →
      p'.reg.gatherPanics = false ∧ p'.reg.gatherOk = true) := by
  obtain ⟨h1, h2⟩ := loaded_config_never_panics_from_start rxOk db dq raw cfg ha h [] rx ops ho
  exact ⟨h1, fun p' h' => ⟨h2 p' h', C03.scrape_succeeds_without_preregistered rx _ p' ops rfl rfl h'⟩⟩

/-- with valid library defaults, the configuration without any setting is accepted (so the hypothesis
    `load … = .ok cfg` of the theorems above is satisfiable for every number type with such defaults) -/
theorem empty_config_accepted (rxOk : Bytes → Bool) (db : List V) (dq : List (V × V)) (hs : LibraryDefaultsSane db dq) :
    ∃ cfg, load rxOk db dq {} = .ok cfg := by
  have hq : summaryOptsOk dq 0 0 = true :=
    (summaryOptsOk_iff dq 0 0).mpr ⟨hs.quantiles, Int.le_refl 0, by decide⟩
  refine ⟨⟨[], .dflt, 0, db, dq, 0, 0, 0, false, false⟩, ?_⟩
  unfold load
  simp [optDec, bind, Except.bind, pure, Except.pure, hs.buckets, hq]

end accepted

/-- every configuration that `load` accepts is safe to run (under `LoaderAssumptions`), as one closed statement -/
def accepted_config_safe_statement : Prop :=
  ∀ (V : Type) [NumOps V] (rxOk : Bytes → Bool) (db : List V) (dq : List (V × V)) (raw : RawConfig V) (cfg : Config V),
    LoaderAssumptions raw → load rxOk db dq raw = .ok cfg → ConfigSafe cfg

/-- (this statement was false before the loader validated buckets and summary options) -/
theorem accepted_config_safe_holds : accepted_config_safe_statement :=
  fun _ _ => accepted_config_safe

section counterexamples
attribute [local instance] toyNumOps

/-- `prometheus.DefBuckets` and `defaultQuantiles` stand-ins on the toy number type: sorted buckets, ranks 0 and 1 -/
private def db0 : List Int := [1, 2, 3]
private def dq0 : List (Int × Int) := [(0, 0), (1, 0)]
private def noRx : Rx := fun _ _ => none
private def obsEv (name : Bytes) : Ev Int := { kind := .observer, name := name, value := 1, relative := false }

/-- the objective law holds on the toy number type (`ceil(l·q) = l·q`; the ranks in [0, 1] are 0 and 1) -/
theorem toy_objectiveLaw : ObjectiveLaw Int := by
  intro q h0 h1 l
  have h0 : q ≥ 0 := of_decide_eq_true h0
  have h1 : q ≤ 1 := of_decide_eq_true h1
  refine objectives_safe_of_ceil_bounds [q] (fun l q' hq' => ?_) l q (List.mem_singleton_self q)
  cases List.mem_singleton.mp hq'
  show 0 ≤ (l : Int) * q ∧ (l : Int) * q ≤ l
  have hq : q = 0 ∨ q = 1 := by omega
  rcases hq with e | e <;> subst e <;> omega

/-- … and so do the library-default stand-ins -/
theorem toy_defaults_sane : LibraryDefaultsSane db0 dq0 :=
  ⟨by decide, by decide⟩

/-- one rule `match: a`, `name: a`, `observer_type: histogram`, `histogram_options: {buckets: [1, 0]}` -/
def rawUnsortedBuckets : RawConfig Int :=
  { rules := [{ matchStr := [97], name := [97], observerType := some (strBytes "histogram"), histOpts := some (some [1, 0]) }] }

/-- **Unsorted buckets are now rejected** (the old loader accepted this configuration, and the first timer event
    `a` panicked in `NewHistogram`: "buckets must be in increasing order"). -/
theorem now_rejects_unsorted_buckets : ∃ e, load (fun _ => true) db0 dq0 rawUnsortedBuckets = .error e :=
  rejects_unsorted_histogram_options _ _ _ rawUnsortedBuckets [] [] _ rfl [1, 0] rfl rfl (by decide)

/-- defaults: `observer_type: summary`, `summary_options: {max_age: -1ns}`; no rules -/
def rawNegativeMaxAge : RawConfig Int :=
  { defaults := { observerType := some (strBytes "summary"), summaryOpts := { maxAge := -1 } } }

/-- **A negative `max_age` is now rejected** (the old loader accepted it, and the first unmapped timer event
    panicked in `NewSummary`: "illegal max age"). -/
theorem now_rejects_negative_max_age : ∃ e, load (fun _ => true) db0 dq0 rawNegativeMaxAge = .error e :=
  rejects_bad_default_summary_options _ _ _ rawNegativeMaxAge (by decide)

/-- defaults: `observer_type: summary`, `summary_options: {max_age: 4ns}` (age buckets left at their default 5) -/
def rawTinyMaxAge : RawConfig Int :=
  { defaults := { observerType := some (strBytes "summary"), summaryOpts := { maxAge := 4 } } }

/-- **`max_age: 4ns` with the default five age buckets is now rejected** (the old loader accepted it: the stream
    duration is `4 / 5 = 0` and the first `Observe` never returned, `summaryHang`). -/
theorem now_rejects_zero_stream_duration : ∃ e, load (fun _ => true) db0 dq0 rawTinyMaxAge = .error e :=
  rejects_bad_default_summary_options _ _ _ rawTinyMaxAge (by decide)

/-- defaults: `observer_type: summary`, `summary_options: {quantiles: [{quantile: 2, error: 0}]}` -/
def rawBadObjective : RawConfig Int :=
  { defaults := { observerType := some (strBytes "summary"), summaryOpts := { quantiles := [(2, 0)] } } }

/-- the rank 2 makes `Query` index out of range with three samples (on the toy type `ceil(l·q) = l·q`) -/
example : queryPanics 3 (2 : Int) = true := by decide +kernel

/-- **An objective outside [0, 1] is now rejected** (the old loader accepted it: the events were processed, and
    the next scrape panicked inside `Gather`, perks' `Query`, leaving the summary's mutex locked). -/
theorem now_rejects_bad_objective : ∃ e, load (fun _ => true) db0 dq0 rawBadObjective = .error e :=
  rejects_bad_default_summary_options _ _ _ rawBadObjective (by decide)

/-- defaults: `observer_type: summary`, `summary_options: {max_age: 30ns}`: the stream duration `30 / 5` is six
    nanoseconds, not zero -/
def rawNanosecondMaxAge : RawConfig Int :=
  { defaults := { observerType := some (strBytes "summary"), summaryOpts := { maxAge := 30 } } }

/-- **A stream duration of a few nanoseconds is now rejected** (the loader repaired by 05034cf rejected only a stream
    duration of zero and accepted this: client_golang's `swapBufs` advances the buffer expiry in steps of the stream
    duration until it has caught up with the wall clock, and with a step shorter than one loop iteration it never
    does - the first scrape or observation after the summary was created did not return; found when the C19 stream
    got `max_age` values of a few nanoseconds). The loader now wants at least a millisecond per age bucket. -/
theorem now_rejects_nanosecond_stream_duration : ∃ e, load (fun _ => true) db0 dq0 rawNanosecondMaxAge = .error e :=
  rejects_bad_default_summary_options _ _ _ rawNanosecondMaxAge (by decide)

/-- `age_buckets: 10^12` with `max_age` unset: the default ten-minute window split into 10^12 buckets has a stream
    duration of zero (and a `uint32` as large as 4·10^9 still gives 150ns). The loader as repaired by 2eac18a
    computes the effective window itself and rejects it, which is why `LoaderAssumptions` needs no typing
    hypothesis. -/
def rawHugeAgeBuckets : RawConfig Int :=
  { defaults := { observerType := some (strBytes "summary"), summaryOpts := { ageBuckets := 1000000000000 } } }

theorem now_rejects_huge_age_buckets : ∃ e, load (fun _ => true) db0 dq0 rawHugeAgeBuckets = .error e :=
  rejects_bad_default_summary_options _ _ _ rawHugeAgeBuckets (by decide)

/-! ### Non-vacuity of (a) and (b) -/

/-- a valid configuration loads: `match: a.*`, `name: b`, histogram with buckets 1 < 2 -/
private def rawGood : RawConfig Int :=
  { rules := [{ matchStr := strBytes "a.*", name := [98], observerType := some (strBytes "histogram"),
                histOpts := some (some [1, 2]) }] }

example : (load (fun _ => true) db0 dq0 rawGood).toBool = true := by decide +kernel

/-- … it is `ConfigSafe` (checked through `config_safe_iff`: the decidable part by evaluation, the objectives
    0 and 1 of the defaults by `toy_objectiveLaw`) -/
example : ∃ cfg, load (fun _ => true) db0 dq0 rawGood = .ok cfg ∧ ConfigSafe cfg := by
  obtain ⟨cfg, hl, hc⟩ := except_ok_of_check (x := load (fun _ => true) db0 dq0 rawGood)
    (p := fun c => configOk c && c.rules.all (fun r => ruleObsTy c r == .histogram) && c.dQuantiles.map (·.1) == [0, 1])
    (by decide +kernel)
  simp only [Bool.and_eq_true, List.all_eq_true, beq_iff_eq] at hc
  refine ⟨cfg, hl, (config_safe_iff cfg).mpr ⟨hc.1.1, fun r hr _ hne => absurd (hc.1.2 r hr) hne, fun _ => ?_⟩⟩
  rw [hc.2]
  exact objectivesSafe_of_ranks toy_objectiveLaw dq0 toy_defaults_sane.quantiles

/-- the hypotheses of (c) are satisfiable, and (c) gives the same conclusion without evaluating anything about the
    loaded configuration: `LoaderAssumptions rawGood` holds on the toy number type (`toy_objectiveLaw`), so `accepted_config_safe` applies -/
example : ∃ cfg, load (fun _ => true) db0 dq0 rawGood = .ok cfg ∧ ConfigSafe cfg := by
  obtain ⟨cfg, hl, -⟩ := except_ok_of_check (x := load (fun _ => true) db0 dq0 rawGood) (p := fun _ => true)
    (by decide +kernel)
  exact ⟨cfg, hl, accepted_config_safe _ _ _ _ _ ⟨toy_objectiveLaw⟩ hl⟩

/-- (d) is about something: two rules mapping `a` and `b` to the same metric `x` with the help strings "1" and "2" —
    the configuration that used to break every later scrape — load, satisfy `LoaderAssumptions`, and
    `loaded_config_scrape_succeeds` applies; the history `a:1|c`, `b:1|c|#k:v` runs to the end with both events
    applied, so its conclusion speaks about a family with two vectors -/
private def rawTwoHelps : RawConfig Int :=
  { rules := [{ matchStr := [97], name := [120], help := [49] }, { matchStr := [98], name := [120], help := [50] }] }

example : ∃ cfg, load (fun _ => true) db0 dq0 rawTwoHelps = .ok cfg ∧
    ∀ ops, OpsLoaded ops → ∀ p', runOps noRx { mapper := MState.fresh cfg, reg := { metrics := [], pre := [] } } ops = some (.ok p') →
      p'.reg.gatherPanics = false ∧ p'.reg.gatherOk = true := by
  obtain ⟨cfg, hl, -⟩ := except_ok_of_check (x := load (fun _ => true) db0 dq0 rawTwoHelps) (p := fun _ => true)
    (by decide +kernel)
  exact ⟨cfg, hl, fun ops ho => (loaded_config_scrape_succeeds _ _ _ _ _ ⟨toy_objectiveLaw⟩ hl noRx ops ho).2⟩

example : (match load (fun _ => true) db0 dq0 rawTwoHelps with
    | .ok cfg =>
      (match runOps noRx { mapper := MState.fresh cfg, reg := { metrics := [], pre := [] } }
          [.line [] [{ kind := .counter, name := [97], value := 1, relative := false }],
           .line [([107], [118])] [{ kind := .counter, name := [98], value := 1, relative := false }]] with
        | some (.ok p') => (p'.counts.applied, p'.reg.metrics.map fun m => m.vecs.map (·.help), p'.reg.gatherOk)
        | _ => (0, [], false))
    | .error _ => (0, [], false)) = (2, [[[49], [49]]], true) := by decide +kernel

/-- a summary-typed configuration with its own quantiles, `max_age` and `age_buckets` that is accepted -/
private def rawGoodSummary : RawConfig Int :=
  { defaults := { observerType := some (strBytes "summary"), summaryOpts := { quantiles := [(1, 0)], maxAge := 10000000000, ageBuckets := 2 } },
    rules := [{ matchStr := strBytes "a.*", name := [98], summaryOpts := some (some [(0, 0)], 0, 3, 0) }] }

example : (load (fun _ => true) db0 dq0 rawGoodSummary).toBool = true := by decide +kernel

/-- the empty configuration is accepted on the toy number type (`empty_config_accepted`) -/
example : ∃ cfg, load (fun _ => true) db0 dq0 {} = .ok cfg := empty_config_accepted _ _ _ toy_defaults_sane

/-- a rule with the illegal label key `1x` is rejected, wherever it stands -/
example (pre post : List (RawRule Int)) :
    ∃ e, load (fun _ => true) db0 dq0
      { rules := pre ++ { matchStr := [97], name := [98], labels := [([49, 120], [99])] } :: post } = .error e :=
  rejects_bad_label_key _ _ _ _ pre post _ rfl [49, 120] [99] (by simp) (by decide)

end counterexamples

end SE.Props.C19
