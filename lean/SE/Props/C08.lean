import SE.Proofs.AvoidsPre
import SE.Spec.FloatLaws
/-
C08 — A conflicting event is dropped alone and harms nothing else.
When the registry refuses an event (`getOrCreate` answers `.ok (.error _)`: a type conflict, a
companion-name conflict or a reserved label name) the exporter state is unchanged except for its own
counters, so every other series keeps its type and value and every later event is processed exactly as
if the refused one had never been sent. The last part of the file characterises *which* requests are
refused as conflicts (`conflict_iff_spec`), proves what the (repaired) companion-name checks buy — over
every history the statsd families never collide by suffix: `suffixFree_getOrCreate`, `suffix_free_history`,
`suffixFree_no_statsd_collision` — and what the (repaired) help bookkeeping of the registry buys — all vectors
of one metric name carry the help string of the first one: `helpUniform_getOrCreate`, `help_uniform_history`,
`helpUniform_help_consistent`. Together: on a well-formed, suffix-free, help-uniform registry without
pre-registered families (every registry a history reaches from the empty one is such) "accepted" does imply
"the scrape stays healthy" — `gather_ok_preserved`, `gather_ok_preserved_step`, `gather_ok_preserved_history`.
With pre-registered families the same holds as long as the statsd metric names stay clear of them (`AvoidsPre`,
SE/Spec/Registry.lean: not the name of a pre-registered family, no `_sum/_count/_bucket` companion relation with one
in either direction) and the pre-registered families scrape fine by themselves: `gather_ok_of_invariants_pre`,
`gather_ok_preserved_pre`, `gather_ok_preserved_pre_step`, `gather_ok_preserved_pre_history`.
The unguarded claim `gather_ok_preserved_statement` (any well-formed registry that scrapes fine) is still false:
the exporter's checks do not see the pre-registered families (`gather_ok_preserved_counterexample`, the open
finding SE.Props.C03.preregistered_name_collision), and an arbitrary — unreachable — registry need not be
help-uniform (`gather_ok_preserved_needs_help_uniform`).

Vocabulary: see SE/Props/C07.lean. `evTarget p rx ev tags = some (c, pl)` means: the event reaches the
registry with the request `pl = (metric type, GetArgs, update function)`; `c` are the counters after
the mapping stage (`mapped` or `unmapped` already incremented).
`Pipe.plus p d` adds the offsets `d` to the counters of `p` and changes nothing else; `shiftRes d`
does the same to the result of a step (SE/Proofs/RegistryPipe.lean).
-/
namespace SE.Props.C08
open SE
variable {V : Type} [NumOps V]

/-- A refusing or panicking `getOrCreate` returns no registry at all — by the shape of its result. -/
theorem rejected_returns_no_registry (r : Reg V) (ty : MType) (a : GetArgs V) (now : Int) :
    (∀ e, r.getOrCreate ty a now = .ok (.error e) → ∀ r', r.getOrCreate ty a now ≠ .ok (.ok r')) ∧
    (∀ pn, r.getOrCreate ty a now = .error pn → ∀ r', r.getOrCreate ty a now ≠ .ok (.ok r')) :=
  ⟨fun e h r' h' => (by rw [h] at h'; injection h' with h'; cases h'), fun pn h r' h' => (by rw [h] at h'; cases h')⟩

/-- **A conflicting event is dropped alone.** If the registry refuses the event's request, `handleEvent`
    returns the input state with `conflicts` incremented (and the `mapped`/`unmapped` counter of the
    mapping stage): registry, clock and mapper are unchanged; nothing is counted as applied, as an error
    or as dropped-by-rule. -/
theorem conflict_dropped_alone (p : Pipe V) (rx : Rx) (ev : Ev V) (tags : Labels) (c : Counts) (pl : Plan V) (e : RegErr)
    (ht : evTarget p rx ev tags = some (c, pl))
    (hc : p.reg.getOrCreate pl.1 pl.2.1 p.now = .ok (.error e)) :
    ∃ p', handleEvent p rx ev tags = some (.ok p') ∧
      p'.reg = p.reg ∧ p'.now = p.now ∧ p'.mapper = p.mapper ∧
      p'.counts.conflicts = p.counts.conflicts + 1 ∧ p'.counts.applied = p.counts.applied ∧
      p'.counts.errors = p.counts.errors ∧ p'.counts.dropped = p.counts.dropped ∧
      p'.counts.mapped + p'.counts.unmapped = p.counts.mapped + p.counts.unmapped + 1 := by
  have ⟨h1, h2, h3⟩ := evTarget_counts ht
  exact ⟨rejectedPipe p c, by rw [handleEvent_of_target ht, hc], rfl, rfl, rfl, congrArg (· + 1) h2, h1, h3⟩

/-- Conversely, the only way `conflicts` moves is a refused request, and then the registry is untouched. -/
theorem conflict_counted_only_on_refusal (p p' : Pipe V) (rx : Rx) (ev : Ev V) (tags : Labels)
    (h : handleEvent p rx ev tags = some (.ok p')) (hcnt : p'.counts.conflicts ≠ p.counts.conflicts) :
    p'.reg = p.reg ∧ p'.counts.conflicts = p.counts.conflicts + 1 ∧
    ∃ c pl e, evTarget p rx ev tags = some (c, pl) ∧ p.reg.getOrCreate pl.1 pl.2.1 p.now = .ok (.error e) := by
  have hs := handleEvent_step p rx ev tags
  rw [h] at hs
  cases hs with
  | skipped _ hc => exact absurd hc hcnt
  | rejected ht hg => exact ⟨rfl, congrArg (· + 1) (evTarget_counts ht).2.1, _, _, _, ht, hg⟩
  | applied ht _ => exact absurd (evTarget_counts ht).2.1 hcnt

/-- A panic inside client_golang (constructor checks at child creation) ends the step with that panic:
    there is no successor state. -/
theorem panic_yields_no_state (p : Pipe V) (rx : Rx) (ev : Ev V) (tags : Labels) (c : Counts) (pl : Plan V) (pn : Panic)
    (ht : evTarget p rx ev tags = some (c, pl)) (hc : p.reg.getOrCreate pl.1 pl.2.1 p.now = .error pn) :
    handleEvent p rx ev tags = some (.error pn) := by
  rw [handleEvent_of_target ht, hc]

/-- **All others keep type and value.** Whatever `handleEvent` does (apply, refuse, drop, reject), in the
    resulting registry
    * every metric name registered before has the type it had before,
    * every vector (help text, buckets, summary options) registered before is unchanged,
    * every (name, labels) other than the one series the event addresses resolves to the very same series
      record as before (same ttl, last, value, counts, buckets) — in particular nothing is created or
      removed elsewhere. -/
theorem others_keep_type_and_value (p p' : Pipe V) (rx : Rx) (ev : Ev V) (tags : Labels)
    (h : handleEvent p rx ev tags = some (.ok p')) :
    (∀ name t, p.reg.type? name = some t → p'.reg.type? name = some t) ∧
    (∀ name names v, p.reg.vec? name names = some v → p'.reg.vec? name names = some v) ∧
    (∀ name labels,
      (∀ c pl, evTarget p rx ev tags = some (c, pl) → ¬(name = pl.2.1.name ∧ labels = pl.2.1.labels)) →
      p'.reg.series? name labels = p.reg.series? name labels) := by
  refine ⟨fun _ _ => (handleEvent_grows h).type, fun _ _ _ => (handleEvent_grows h).vec, fun name labels hne => ?_⟩
  rcases handleEvent_ok_cases h with ⟨c', rfl, _⟩ | ⟨c, pl, reg, ht, hg, rfl⟩
  · rfl
  · exact applied_series_frame ht hg name labels (hne c pl ht)

/-- At the level of the metric list: either the registry is returned as it was, or every metric with a
    name other than the addressed one — its type, its vectors, all its series, its position relative to
    the others — is literally the same, and so are the pre-registered families. -/
theorem other_metrics_untouched (p p' : Pipe V) (rx : Rx) (ev : Ev V) (tags : Labels)
    (h : handleEvent p rx ev tags = some (.ok p')) :
    p'.reg = p.reg ∨
    ∃ c pl, evTarget p rx ev tags = some (c, pl) ∧ p'.reg.pre = p.reg.pre ∧
      p'.reg.metrics.filter (·.name != pl.2.1.name) = p.reg.metrics.filter (·.name != pl.2.1.name) := by
  rcases handleEvent_ok_cases h with ⟨c', rfl, _⟩ | ⟨c, pl, reg, ht, hg, rfl⟩
  · exact Or.inl rfl
  · exact Or.inr ⟨c, pl, ht, (getOrCreate_pre hg :),
      (updateSeries_others reg pl.2.1.name pl.2.1.labels pl.2.2).trans (getOrCreate_others hg)⟩

/-- The same in the membership reading, on a well-formed registry: the series of the registry other than
    the addressed one are exactly the same before and after. -/
theorem others_keep_membership (p p' : Pipe V) (rx : Rx) (ev : Ev V) (tags : Labels) (hw : RegWF p.reg)
    (h : handleEvent p rx ev tags = some (.ok p')) (name : Bytes) (s : Series V)
    (hne : ∀ c pl, evTarget p rx ev tags = some (c, pl) → ¬(name = pl.2.1.name ∧ s.labels = pl.2.1.labels)) :
    p'.reg.HasSeries name s ↔ p.reg.HasSeries name s := by
  rw [hw.hasSeries_iff, (RegWF_handleEvent hw h).hasSeries_iff,
    (others_keep_type_and_value p p' rx ev tags h).2.2 name s.labels hne]

/-- The type of the addressed metric after an applied event is the requested type — and if the name was
    registered before, that is the type it already had (previous theorem): no event changes a type. -/
theorem applied_type (p p' : Pipe V) (rx : Rx) (ev : Ev V) (tags : Labels)
    (h : handleEvent p rx ev tags = some (.ok p')) (ha : p'.counts.applied = p.counts.applied + 1) :
    ∃ c pl, evTarget p rx ev tags = some (c, pl) ∧ p'.reg.type? pl.2.1.name = some pl.1 := by
  obtain ⟨c, pl, reg, ht, hg, rfl⟩ := handleEvent_applied h ha
  exact ⟨c, pl, ht, applied_type_self hg⟩

/-- **Later samples still apply.** After a refused event the state is the input state plus a constant
    offset `d` on the exporter's counters (`conflicts` +1, `mapped` or `unmapped` +1). Every later event —
    and every later sequence of events — is then processed exactly as from the state before the refused
    event: same registry, same clock, same mapper, same panics, the counters differing by `d`. -/
theorem later_samples_still_apply (p : Pipe V) (rx : Rx) (ev : Ev V) (tags : Labels) (c : Counts) (pl : Plan V) (e : RegErr)
    (ht : evTarget p rx ev tags = some (c, pl))
    (hc : p.reg.getOrCreate pl.1 pl.2.1 p.now = .ok (.error e)) :
    ∃ d : Counts, d.conflicts = 1 ∧ d.applied = 0 ∧ d.errors = [] ∧ d.dropped = 0 ∧ d.mapped + d.unmapped = 1 ∧
      handleEvent p rx ev tags = some (.ok (p.plus d)) ∧
      (∀ ev2 tags2, handleEvent (p.plus d) rx ev2 tags2 = shiftRes d (handleEvent p rx ev2 tags2)) ∧
      (∀ tags2 evs, handleEvents (p.plus d) rx tags2 evs = shiftRes d (handleEvents p rx tags2 evs)) := by
  have hstep : handleEvent p rx ev tags = some (.ok (rejectedPipe p c)) := by
    rw [handleEvent_of_target ht, hc]
  -- `rejectedPipe p c` is `p.plus d` by unfolding, with `d` according to whether a rule matched
  obtain ⟨_, _, nm, hn, _⟩ := evTarget_spec ht
  obtain ⟨_, _, _, _, ⟨_, _, _, _, _, rfl⟩ | ⟨_, _, rfl⟩⟩ := evNamed_ok hn
  · exact ⟨{ conflicts := 1, mapped := 1 }, rfl, rfl, rfl, rfl, rfl, hstep, handleEvent_plus p _ rx,
      handleEvents_plus p _ rx⟩
  · exact ⟨{ conflicts := 1, unmapped := 1 }, rfl, rfl, rfl, rfl, rfl, hstep, handleEvent_plus p _ rx,
      handleEvents_plus p _ rx⟩

/-- More generally the exporter's counters never influence a step: offsetting them offsets the result. -/
theorem counters_do_not_influence (p : Pipe V) (d : Counts) (rx : Rx) (ev : Ev V) (tags : Labels) :
    handleEvent (p.plus d) rx ev tags = shiftRes d (handleEvent p rx ev tags) :=
  handleEvent_plus p d rx ev tags

/-! ### Which requests are refused as conflicts -/

/-- The conflict checks of `pkg/registry`, spelled out. A request for (`ty`, `a.name`, `a.labels`) is a
    conflict iff it is not answered from the map (same name, same type, same label set already there) and
    * the name is registered with another type, or
    * [all four types] the name ends in `_bucket`/`_count`/`_sum` and what precedes that suffix is registered
      with a type other than counter (sic: `checkHistogramNameCollision` hard-codes counter; a registered
      counter exposes no companion series, so nothing is lost), or
    * [histogram] `name_sum`, `name_count` or `name_bucket` is registered — with whatever type, or
    * [summary] `name_sum` or `name_count` is registered — with whatever type. -/
def conflictsSpec (r : Reg V) (ty : MType) (a : GetArgs V) : Prop :=
  ¬(r.type? a.name = some ty ∧ (r.series? a.name a.labels).isSome = true) ∧
  ((∃ t, r.type? a.name = some t ∧ t ≠ ty) ∨
   (∃ suf, suf ∈ [sfxBucket, sfxCount, sfxSum] ∧ ∃ base, a.name = base ++ suf ∧
      ∃ t, r.type? base = some t ∧ t ≠ .counter) ∨
   (ty = .histogram ∧ ∃ suf, suf ∈ [sfxSum, sfxCount, sfxBucket] ∧ ∃ t, r.type? (a.name ++ suf) = some t) ∨
   (ty = .summary ∧ ∃ suf, suf ∈ [sfxSum, sfxCount] ∧ ∃ t, r.type? (a.name ++ suf) = some t))

/-- `getOrCreate` answers "conflict" exactly on `conflictsSpec`. -/
theorem conflict_iff_spec (r : Reg V) (ty : MType) (a : GetArgs V) (now : Int) :
    r.getOrCreate ty a now = .ok (.error .conflict) ↔ conflictsSpec r ty a := by
  rw [getOrCreate_conflict_iff, ← Bool.not_eq_true, isHit_iff, conflicts_iff, companion_eq_true_iff,
    histNameCollision_iff]
  -- clause by clause this is `conflictsSpec`, except that the requested observer's companion names are still to be
  -- read suffix by suffix, and then per type
  refine and_congr_right fun _ => or_congr_right (or_congr_right ?_)
  have e : (∃ n, n ∈ companionNames a.name ty ∧ ∃ t, r.type? n = some t) ↔
      ∃ suf, suf ∈ companionSfx ty ∧ ∃ t, r.type? (a.name ++ suf) = some t :=
    ⟨fun ⟨n, hn, ht⟩ => by obtain ⟨s, hs, rfl⟩ := mem_companionNames.mp hn; exact ⟨s, hs, ht⟩,
     fun ⟨s, hs, ht⟩ => ⟨_, mem_companionNames.mpr ⟨s, hs, rfl⟩, ht⟩⟩
  rw [e]
  cases ty <;> simp only [companionSfx, List.not_mem_nil, false_and, exists_false, reduceCtorEq, true_and, or_false,
    false_or, or_self]

/-! ### What the companion-name checks buy: the statsd families never collide by suffix

`SuffixFree r` (SE/Spec/Registry.lean): no registered metric is named like a companion series (`_sum`,
`_count`, for histograms also `_bucket`) of a registered histogram or summary. It holds of the empty
registry and is preserved by every operation that returns a registry, hence by every history; and it is
exactly what `checkSuffixCollisions` needs of the statsd families. No bound on sizes or lengths anywhere. -/

/-- The empty registry (whatever is pre-registered). -/
theorem suffixFree_empty (pre : List (Bytes × MType × Bytes)) : SuffixFree ({ metrics := [], pre := pre } : Reg V) :=
  SuffixFree_empty pre

/-- **Every `getOrCreate` that returns a registry preserves `SuffixFree`** — the hit path (nothing is
    registered) and the creation path: the new name's own companion names are free (`checkObserverNameCollision`
    looks for them with *any* type), and the new name is not a companion name of a registered observer
    (`checkHistogramNameCollision`: the base would be registered with a type other than counter). -/
theorem suffixFree_getOrCreate (r r' : Reg V) (ty : MType) (a : GetArgs V) (now : Int) :
    RegWF r → SuffixFree r → r.getOrCreate ty a now = .ok (.ok r') → SuffixFree r' :=
  fun hw hs hg => SuffixFree_getOrCreate hw hs hg

/-- The value update that follows an accepted request changes no name and no type. -/
theorem suffixFree_updateSeries (r : Reg V) (name : Bytes) (labels : Labels) (f : VecM V → Series V → Series V) :
    SuffixFree r → SuffixFree (updateSeries r name labels f) :=
  fun hs => hs.entriesOf (entriesOf_updateSeries r name labels f)

/-- The TTL sweep removes series only, never a metric entry: the (name, type) pairs are the same list … -/
theorem sweep_keeps_metric_entries (r : Reg V) (now : Int) :
    (r.sweep now).metrics.map (fun m => (m.name, m.ty)) = r.metrics.map (fun m => (m.name, m.ty)) :=
  by rw [sweep_metrics, List.map_map]; rfl

/-- … so `SuffixFree` is preserved (it is even the same statement before and after). -/
theorem suffixFree_sweep (r : Reg V) (now : Int) : SuffixFree r → SuffixFree (r.sweep now) :=
  fun hs => hs.entriesOf (entriesOf_sweep r now)

theorem suffixFree_sweep_iff (r : Reg V) (now : Int) : SuffixFree (r.sweep now) ↔ SuffixFree r :=
  ⟨fun h => h.entriesOf (entriesOf_sweep_rev r now), fun h => h.entriesOf (entriesOf_sweep r now)⟩

/-- One event, whatever `handleEvent` does with it. -/
theorem suffixFree_handleEvent (p p' : Pipe V) (rx : Rx) (ev : Ev V) (tags : Labels) (hw : RegWF p.reg)
    (hs : SuffixFree p.reg) (h : handleEvent p rx ev tags = some (.ok p')) : SuffixFree p'.reg :=
  (((SuffixFree_steps rx).event p ev tags ⟨hw, hs⟩).ok h).2

/-- All events of one line. -/
theorem suffixFree_handleEvents (p p' : Pipe V) (rx : Rx) (tags : Labels) (evs : List (Ev V)) (hw : RegWF p.reg)
    (hs : SuffixFree p.reg) (h : handleEvents p rx tags evs = some (.ok p')) : SuffixFree p'.reg :=
  (((SuffixFree_steps rx).handleEvents tags evs p ⟨hw, hs⟩).ok h).2

/-- Every history (event batches, sweeps, clock changes, reloads, in any order) from a well-formed,
    suffix-free registry. -/
theorem suffix_free_history_from (rx : Rx) (p p' : Pipe V) (ops : List (PipeOp V)) (hw : RegWF p.reg)
    (hs : SuffixFree p.reg) (h : runOps rx p ops = some (.ok p')) : SuffixFree p'.reg :=
  SuffixFree_runOps rx ops hw hs h

/-- **After every history that starts without statsd metrics, the registry is suffix-free.** -/
theorem suffix_free_history (rx : Rx) (p p' : Pipe V) (ops : List (PipeOp V)) :
    p.reg.metrics = [] → runOps rx p ops = some (.ok p') → SuffixFree p'.reg :=
  fun h0 h => (gatherInv_of_no_metrics rx ops h0 h).1

/-- **The link to `Gather`**: in a suffix-free registry `checkSuffixCollisions` finds nothing among the live
    statsd families (this list is the statsd part of the `fams` of `Reg.gatherOk`). -/
theorem suffixFree_no_statsd_collision (r : Reg V) :
    SuffixFree r → suffixCollision ((r.metrics.filter (!·.series.isEmpty)).map fun m => (m.name, m.ty)) = false :=
  suffixCollision_live_of_suffixFree

/-- Without pre-registered families that is the whole third conjunct of `Reg.gatherOk` (the families of
    `Reg.pre` are outside the exporter's conflict checks: SE.Props.C03.preregistered_name_collision) … -/
theorem suffixFree_no_collision_without_pre (r : Reg V) (hs : SuffixFree r) (hpre : r.pre = []) :
    (!suffixCollision ((r.metrics.filter (!·.series.isEmpty)).map (fun m => (m.name, m.ty)) ++
        r.pre.map (fun p => (p.1, p.2.1)))) = true := by
  rw [hpre, List.map_nil, List.append_nil, suffixCollision_live_of_suffixFree hs]; rfl

/-- … and the second conjunct is vacuous: `Gather` succeeds iff every live family has one help string. -/
theorem gather_ok_iff_help_consistent (r : Reg V) (hs : SuffixFree r) (hpre : r.pre = []) :
    r.gatherOk = (r.metrics.filter (!·.series.isEmpty)).all helpConsistent :=
  gatherOk_of_suffixFree hs hpre

/-! ### What the help bookkeeping buys: one help string per family

`HelpUniform r` (SE/Spec/Registry.lean): all vectors of one metric entry carry the same help string. The registry
remembers, per metric name, the help string of the first vector it created for that name and creates every later
vector of the name with it (`helpFor`; `Reg.firstHelp?`), whatever help the request carries — a second mapping
rule for the same name, or a reloaded configuration, cannot introduce a second help string. It holds of the empty
registry and is preserved by every operation that returns a registry, hence by every history; and it is exactly
what the first check of `Gather` needs. -/

/-- The empty registry (whatever is pre-registered). -/
theorem helpUniform_empty (pre : List (Bytes × MType × Bytes)) : HelpUniform ({ metrics := [], pre := pre } : Reg V) :=
  HelpUniform_empty pre

/-- **Every `getOrCreate` that returns a registry preserves `HelpUniform`** — the hit path (no vector is
    touched) and the creation path: an existing vector is reused as it is, a new one gets the help string of the
    entry's first vector (which by uniformity is that of all its vectors), or the request's if it is the first. -/
theorem helpUniform_getOrCreate (r r' : Reg V) (ty : MType) (a : GetArgs V) (now : Int) :
    RegWF r → HelpUniform r → r.getOrCreate ty a now = .ok (.ok r') → HelpUniform r' :=
  fun hw hh hg => HelpUniform_getOrCreate hw hh hg

/-- In a help-uniform registry the help string a new vector gets is the help string of every vector of the name. -/
theorem helpUniform_first_help (r : Reg V) (hh : HelpUniform r) (name : Bytes) (names : List Bytes) (v : VecM V) :
    r.vec? name names = some v → r.firstHelp? name = some v.help := by
  intro hv
  obtain ⟨m, hf, hv⟩ := Option.bind_eq_some_iff.mp hv
  exact firstHelp?_of_mem hh hf (List.mem_of_find?_eq_some hv)

/-- The value update that follows an accepted request touches no vector. -/
theorem helpUniform_updateSeries (r : Reg V) (name : Bytes) (labels : Labels) (f : VecM V → Series V → Series V) :
    HelpUniform r → HelpUniform (updateSeries r name labels f) :=
  fun hh => hh.entriesOf (entriesOf_updateSeries r name labels f)

/-- The TTL sweep removes series only, never a vector. -/
theorem helpUniform_sweep (r : Reg V) (now : Int) : HelpUniform r → HelpUniform (r.sweep now) :=
  fun hh => hh.entriesOf (entriesOf_sweep r now)

theorem helpUniform_sweep_iff (r : Reg V) (now : Int) : HelpUniform (r.sweep now) ↔ HelpUniform r :=
  ⟨fun h => h.entriesOf (entriesOf_sweep_rev r now), fun h => h.entriesOf (entriesOf_sweep r now)⟩

/-- One event, whatever `handleEvent` does with it. -/
theorem helpUniform_handleEvent (p p' : Pipe V) (rx : Rx) (ev : Ev V) (tags : Labels) (hw : RegWF p.reg)
    (hh : HelpUniform p.reg) (h : handleEvent p rx ev tags = some (.ok p')) : HelpUniform p'.reg :=
  (((HelpUniform_steps rx).event p ev tags ⟨hw, hh⟩).ok h).2

/-- All events of one line. -/
theorem helpUniform_handleEvents (p p' : Pipe V) (rx : Rx) (tags : Labels) (evs : List (Ev V)) (hw : RegWF p.reg)
    (hh : HelpUniform p.reg) (h : handleEvents p rx tags evs = some (.ok p')) : HelpUniform p'.reg :=
  (((HelpUniform_steps rx).handleEvents tags evs p ⟨hw, hh⟩).ok h).2

/-- Every history (event batches, sweeps, clock changes, reloads, in any order) from a well-formed,
    help-uniform registry. -/
theorem help_uniform_history_from (rx : Rx) (p p' : Pipe V) (ops : List (PipeOp V)) (hw : RegWF p.reg)
    (hh : HelpUniform p.reg) (h : runOps rx p ops = some (.ok p')) : HelpUniform p'.reg :=
  HelpUniform_runOps rx ops hw hh h

/-- **After every history that starts without statsd metrics, the registry is help-uniform.** -/
theorem help_uniform_history (rx : Rx) (p p' : Pipe V) (ops : List (PipeOp V)) :
    p.reg.metrics = [] → runOps rx p ops = some (.ok p') → HelpUniform p'.reg :=
  fun h0 h => (gatherInv_of_no_metrics rx ops h0 h).2.1

/-- **The link to `Gather`**: in a help-uniform registry every family — live or not — has one help string; in
    particular the first conjunct of `Reg.gatherOk` holds. -/
theorem helpUniform_help_consistent (r : Reg V) (hh : HelpUniform r) :
    (∀ m, m ∈ r.metrics → helpConsistent m = true) ∧
    (r.metrics.filter (!·.series.isEmpty)).all helpConsistent = true :=
  ⟨fun m hm => helpConsistent_of_vecs (hh m hm), live_helpConsistent_of_helpUniform hh⟩

/-! ### Accepted ⇒ the scrape stays healthy — on the registries the exporter reaches -/

/-- suffix-free, help-uniform, nothing pre-registered: `Gather` succeeds -/
theorem gather_ok_of_invariants (r : Reg V) (hs : SuffixFree r) (hh : HelpUniform r) (hpre : r.pre = []) :
    r.gatherOk = true :=
  gatherOk_of_suffixFree_helpUniform hs hh hpre

/-- **A request that the registry accepts keeps `Gather` healthy** — on a well-formed, suffix-free, help-uniform
    registry without pre-registered families. (These hold of every registry a history reaches from the empty one:
    `suffix_free_history`, `help_uniform_history`; the registry need not even be assumed to scrape fine — it does.) -/
theorem gather_ok_preserved (r r' : Reg V) (ty : MType) (a : GetArgs V) (now : Int) :
    RegWF r → SuffixFree r → HelpUniform r → r.pre = [] → r.getOrCreate ty a now = .ok (.ok r') → r'.gatherOk = true :=
  fun hw hs hh hpre hg =>
    gatherOk_of_suffixFree_helpUniform (SuffixFree_getOrCreate hw hs hg) (HelpUniform_getOrCreate hw hh hg)
      (by rw [getOrCreate_pre hg, hpre])

/-- … through a whole pipeline step: whatever `handleEvent` does with the event (apply, refuse, drop, reject) -/
theorem gather_ok_preserved_step (p p' : Pipe V) (rx : Rx) (ev : Ev V) (tags : Labels) (hw : RegWF p.reg)
    (hs : SuffixFree p.reg) (hh : HelpUniform p.reg) (hpre : p.reg.pre = [])
    (h : handleEvent p rx ev tags = some (.ok p')) : p'.reg.gatherOk = true :=
  gatherOk_of_suffixFree_helpUniform (suffixFree_handleEvent p p' rx ev tags hw hs h) (helpUniform_handleEvent p p' rx ev tags hw hh h)
    (by rw [((pre_steps rx p.reg.pre).event p ev tags rfl).ok h, hpre])

/-- … and through every history (event batches, sweeps, clock changes, reloads, in any order) -/
theorem gather_ok_preserved_history (rx : Rx) (p p' : Pipe V) (ops : List (PipeOp V)) (hw : RegWF p.reg)
    (hs : SuffixFree p.reg) (hh : HelpUniform p.reg) (hpre : p.reg.pre = [])
    (h : runOps rx p ops = some (.ok p')) : p'.reg.gatherOk = true :=
  have ⟨hs', hh', hp⟩ := gatherInv_runOps rx ops hw hs hh h
  gatherOk_of_suffixFree_helpUniform hs' hh' (by rw [hp, hpre])

/-! ### … and next to pre-registered families, as long as the metric names stay clear of them -/

/-- `getOrCreate` never touches the pre-registered families -/
theorem getOrCreate_keeps_pre (r r' : Reg V) (ty : MType) (a : GetArgs V) (now : Int) :
    r.getOrCreate ty a now = .ok (.ok r') → r'.pre = r.pre :=
  getOrCreate_pre

/-- suffix-free, help-uniform, the pre-registered families consistent among themselves, and every statsd metric
    that has a series clear of them (`AvoidsPre`): `Gather` succeeds -/
theorem gather_ok_of_invariants_pre (r : Reg V) (hs : SuffixFree r) (hh : HelpUniform r)
    (hp : ({ metrics := [], pre := r.pre } : Reg V).gatherOk = true)
    (hav : ∀ m ∈ r.metrics, m.series.isEmpty = false → AvoidsPre r.pre m.name m.ty = true) : r.gatherOk = true :=
  gatherOk_of_invariants_pre hs hh hp hav

/-- **A request that the registry accepts keeps `Gather` healthy — also next to pre-registered families**, provided
    these scrape fine by themselves and every metric of the resulting registry (the requested one included) stays
    clear of them: `gather_ok_preserved` without `r.pre = []`. The exporter's own checks never look at `Reg.pre`;
    `AvoidsPre` is exactly what they would have to look at. -/
theorem gather_ok_preserved_pre (r r' : Reg V) (ty : MType) (a : GetArgs V) (now : Int) :
    RegWF r → SuffixFree r → HelpUniform r → ({ metrics := [], pre := r.pre } : Reg V).gatherOk = true →
    (∀ m ∈ r'.metrics, AvoidsPre r'.pre m.name m.ty = true) → r.getOrCreate ty a now = .ok (.ok r') →
    r'.gatherOk = true :=
  fun hw hs hh hp hav hg =>
    gatherOk_of_invariants_pre (SuffixFree_getOrCreate hw hs hg) (HelpUniform_getOrCreate hw hh hg)
      (by rw [getOrCreate_pre hg]; exact hp) (fun m hm _ => hav m hm)

/-- … it is enough that the metrics that have a series stay clear of them -/
theorem gather_ok_preserved_pre_live (r r' : Reg V) (ty : MType) (a : GetArgs V) (now : Int) :
    RegWF r → SuffixFree r → HelpUniform r → ({ metrics := [], pre := r.pre } : Reg V).gatherOk = true →
    (∀ m ∈ r'.metrics, m.series.isEmpty = false → AvoidsPre r'.pre m.name m.ty = true) →
    r.getOrCreate ty a now = .ok (.ok r') → r'.gatherOk = true :=
  fun hw hs hh hp hav hg =>
    gatherOk_of_invariants_pre (SuffixFree_getOrCreate hw hs hg) (HelpUniform_getOrCreate hw hh hg)
      (by rw [getOrCreate_pre hg]; exact hp) hav

/-- … through a whole pipeline step -/
theorem gather_ok_preserved_pre_step (p p' : Pipe V) (rx : Rx) (ev : Ev V) (tags : Labels) (hw : RegWF p.reg)
    (hs : SuffixFree p.reg) (hh : HelpUniform p.reg)
    (hp : ({ metrics := [], pre := p.reg.pre } : Reg V).gatherOk = true)
    (hav : ∀ m ∈ p'.reg.metrics, m.series.isEmpty = false → AvoidsPre p'.reg.pre m.name m.ty = true)
    (h : handleEvent p rx ev tags = some (.ok p')) : p'.reg.gatherOk = true :=
  gatherOk_of_invariants_pre (suffixFree_handleEvent p p' rx ev tags hw hs h) (helpUniform_handleEvent p p' rx ev tags hw hh h)
    (by rw [((pre_steps rx p.reg.pre).event p ev tags rfl).ok h]; exact hp) hav

/-- … and through every history (event batches, sweeps, clock changes, reloads, in any order) -/
theorem gather_ok_preserved_pre_history (rx : Rx) (p p' : Pipe V) (ops : List (PipeOp V)) (hw : RegWF p.reg)
    (hs : SuffixFree p.reg) (hh : HelpUniform p.reg)
    (hp : ({ metrics := [], pre := p.reg.pre } : Reg V).gatherOk = true)
    (hav : ∀ m ∈ p'.reg.metrics, m.series.isEmpty = false → AvoidsPre p'.reg.pre m.name m.ty = true)
    (h : runOps rx p ops = some (.ok p')) : p'.reg.gatherOk = true :=
  have ⟨hs', hh', hpre⟩ := gatherInv_runOps rx ops hw hs hh h
  gatherOk_of_invariants_pre hs' hh' (by rw [hpre]; exact hp) hav

/-! ### The unguarded reading still fails: pre-registered families, and registries no history reaches

"Accepted requests never make the scrape fail" for *any* well-formed registry that scrapes fine
(`gather_ok_preserved_statement`) is still false, for two reasons that have nothing to do with each other:
* the conflict checks only look at the exporter's own maps, not at the families other collectors registered
  before (`Reg.pre`): the empty registry next to a pre-registered counter `x` with another help string accepts
  the statsd counter `x`, and `Gather` rejects the family — the smallest refutation, and a reachable one (the open
  finding SE.Props.C03.preregistered_name_collision);
* the statement quantifies over arbitrary registries, not over reachable ones: a registry whose metric `x` has
  two vectors with different help strings, only one of them with a live child, is well-formed, suffix-free and
  scrapes fine; a request for a series of the other vector is accepted and `Gather` fails. No history from the
  empty registry produces such a registry any more (`help_uniform_history`).
The former witness — `x` requested without labels and help "h", then with the label `k` and help "g" — is
repaired: the second vector is created with the help "h" and `Gather` succeeds (`second_help_ignored`). -/

section counterexample
attribute [local instance] toyNumOps

private def args (name : Bytes) (labels : Labels) (help : Bytes) : GetArgs Int :=
  { name := name, labels := labels, help := help, ttl := 0 }
private def nameX : Bytes := [120]
private def nameXsum : Bytes := [120, 95, 115, 117, 109]   -- "x_sum"
private def nameYsum : Bytes := [121, 95, 115, 117, 109]   -- "y_sum"
private def helpH : Bytes := [104]   -- "h"
private def helpG : Bytes := [103]   -- "g"
private def labelsKV : Labels := [([107], [118])]   -- k="v"

/-- the registry after an accepted request (`none`: refused or panicked) -/
private def step (r : Reg Int) (ty : MType) (a : GetArgs Int) : Option (Reg Int) :=
  match r.getOrCreate ty a 0 with
  | .ok (.ok r') => some r'
  | _ => none

private theorem step_spec {r r' : Reg Int} {ty : MType} {a : GetArgs Int} (h : step r ty a = some r') :
    r.getOrCreate ty a 0 = .ok (.ok r') := by
  unfold step at h
  split at h
  · cases h; assumption
  · cases h

/-- the registry's answer when it refuses the request -/
private def refusal (r : Reg Int) (ty : MType) (a : GetArgs Int) : Option RegErr :=
  match r.getOrCreate ty a 0 with
  | .ok (.error e) => some e
  | _ => none

private theorem refusal_spec {r : Reg Int} {ty : MType} {a : GetArgs Int} {e : RegErr} (h : refusal r ty a = some e) :
    r.getOrCreate ty a 0 = .ok (.error e) := by
  unfold refusal at h
  split at h
  · cases h; assumption
  · cases h

private theorem some_getD (o : Option (Reg Int)) (h : o.isSome = true) : o = some (o.getD {}) :=
  match o, h with
  | some _, _ => rfl

/-- the unguarded claim: a request that the registry accepts keeps `Gather` healthy -/
def gather_ok_preserved_statement : Prop :=
  ∀ (V : Type) [NumOps V] (r r' : Reg V) (ty : MType) (a : GetArgs V) (now : Int),
    RegWF r → r.gatherOk = true → r.getOrCreate ty a now = .ok (.ok r') → r'.gatherOk = true

/-- the empty registry next to a pre-registered counter `x` whose help string is "g" -/
private def regPre : Reg Int := { metrics := [], pre := [(nameX, .counter, helpG)] }

/-- **the smallest refutation**: the registry without statsd metrics next to a pre-registered counter `x` (help
    "g") is well-formed, suffix-free, help-uniform and scrapes fine; the statsd counter `x` with help "h" is
    accepted — `MetricConflicts` does not see the pre-registered family — and `Gather` fails afterwards. -/
theorem gather_ok_preserved_counterexample :
    ∃ r2 : Reg Int, step regPre .counter (args nameX [] helpH) = some r2 ∧
      RegWF regPre ∧ SuffixFree regPre ∧ HelpUniform regPre ∧ regPre.gatherOk = true ∧ r2.gatherOk = false := by
  -- the witness is what `step` returns: `some_getD` fixes it
  exact ⟨_, some_getD _ (by decide +kernel), RegWF_empty _, SuffixFree_empty _, HelpUniform_empty _, by decide +kernel⟩

/-- hence the unguarded claim is false -/
theorem gather_ok_preserved_statement_false : ¬ gather_ok_preserved_statement := by
  intro h
  obtain ⟨r2, h2, hw, _, _, hg1, hg2⟩ := gather_ok_preserved_counterexample
  exact Bool.false_ne_true (hg2.symm.trans (h Int regPre r2 _ _ 0 hw hg1 (step_spec h2)))

/-- what the refutation lacks of the hypotheses of `gather_ok_preserved_pre`: the requested counter `x` does not
    stay clear of the pre-registered families (it has the name of one) -/
theorem gather_ok_preserved_counterexample_violates_avoidsPre :
    AvoidsPre regPre.pre nameX .counter = false := by decide +kernel

/-- a registry no history reaches: the counter `x` with a vector without labels (help "h", one live child) and a
    vector for the label `k` (help "g", no child) -/
private def regTwoHelps : Reg Int :=
  { metrics := [{ name := nameX, ty := .counter,
                  vecs := [{ names := [], help := helpH, bounds := [] }, { names := [[107]], help := helpG, bounds := [] }],
                  series := [{ labels := [], ttl := 0, last := 0, f := 0, n := 0, bk := [] }] }] }

private theorem regTwoHelps_wf : RegWF regTwoHelps :=
  ⟨by decide +kernel, by decide +kernel, by decide +kernel⟩

/-- **`HelpUniform` cannot be dropped from `gather_ok_preserved`** (second, independent refutation of the unguarded
    claim, nothing pre-registered): `regTwoHelps` is well-formed, suffix-free, not help-uniform, and scrapes fine
    (only one of its two vectors has a child); the request for `x{k="v"}` is accepted — the vector exists and is
    reused with its help "g" — and `Gather` fails afterwards. -/
theorem gather_ok_preserved_needs_help_uniform :
    ∃ r2 : Reg Int, step regTwoHelps .counter (args nameX labelsKV helpH) = some r2 ∧
      RegWF regTwoHelps ∧ SuffixFree regTwoHelps ∧ ¬ HelpUniform regTwoHelps ∧ regTwoHelps.pre = [] ∧
      regTwoHelps.gatherOk = true ∧ r2.gatherOk = false := by
  refine ⟨_, some_getD _ (by decide +kernel), regTwoHelps_wf, ?_, ?_, rfl, by decide +kernel⟩
  · unfold SuffixFree; decide +kernel
  · unfold HelpUniform; decide +kernel

/-- **the former witness, repaired**: summary `x{}` with help "h" and then summary `x{k="v"}` with help "g" are both
    accepted as before; the second vector is created with the help string of the first, "h", and `Gather` succeeds
    after the first and after the second request (it used to fail after the second). -/
theorem second_help_ignored :
    ∃ r1 r2 : Reg Int, step {} .summary (args nameX [] helpH) = some r1 ∧
      step r1 .summary (args nameX labelsKV helpG) = some r2 ∧
      r1.gatherOk = true ∧ r2.gatherOk = true ∧
      r2.metrics.map (fun m => (m.name, m.vecs.map fun v => (v.names, v.help))) =
        [(nameX, [([], helpH), ([[107]], helpH)])] := by
  exact ⟨_, _, some_getD _ (by decide +kernel), some_getD _ (by decide +kernel), by decide +kernel⟩

/-- the same conclusion without evaluating the scrape: `gather_ok_preserved` applies to both requests -/
example : ∀ r1 r2 : Reg Int, step {} .summary (args nameX [] helpH) = some r1 →
    step r1 .summary (args nameX labelsKV helpG) = some r2 → SuffixFree r2 ∧ HelpUniform r2 ∧ r2.gatherOk = true := by
  intro r1 r2 h1 h2
  have hs1 := step_spec h1
  have hs2 := step_spec h2
  have hw1 : RegWF r1 := RegWF_getOrCreate (RegWF_empty []) hs1
  have hf1 : SuffixFree r1 := SuffixFree_getOrCreate (RegWF_empty []) (SuffixFree_empty []) hs1
  have hh1 : HelpUniform r1 := HelpUniform_getOrCreate (RegWF_empty []) (HelpUniform_empty []) hs1
  exact ⟨SuffixFree_getOrCreate hw1 hf1 hs2, HelpUniform_getOrCreate hw1 hh1 hs2,
    gather_ok_preserved r1 r2 _ _ 0 hw1 hf1 hh1 (getOrCreate_pre hs1) hs2⟩

/-! The former witness — summary `x`, then summary `x_sum`: both were accepted and `Gather` failed with a
    suffix collision — is now refused, in either order. -/

example : ∃ r1 : Reg Int, step {} .summary (args nameX [] helpH) = some r1 ∧
    r1.getOrCreate .summary (args nameXsum [] helpH) 0 = .ok (.error .conflict) := by
  refine ⟨_, some_getD _ (by decide +kernel), refusal_spec ?_⟩
  decide +kernel

example : ∃ r1 : Reg Int, step {} .summary (args nameXsum [] helpH) = some r1 ∧
    r1.getOrCreate .summary (args nameX [] helpH) 0 = .ok (.error .conflict) := by
  refine ⟨_, some_getD _ (by decide +kernel), refusal_spec ?_⟩
  decide +kernel

/-- non-vacuity of `SuffixFree`: histogram `x`, then counter `y_sum` — both accepted; the registry reached
    holds both metrics, is suffix-free and scrapes fine -/
example : ∃ r1 r2 : Reg Int, step {} .histogram (args nameX [] helpH) = some r1 ∧
    step r1 .counter (args nameYsum [] helpH) = some r2 ∧
    r2.metrics.map (fun m => (m.name, m.ty)) = [(nameX, .histogram), (nameYsum, .counter)] ∧
    SuffixFree r2 ∧ r2.gatherOk = true := by
  refine ⟨_, _, some_getD _ (by decide +kernel), some_getD _ (by decide +kernel), ?_⟩
  unfold SuffixFree
  decide +kernel

/-! The same through the whole exporter: configuration without rules, observers default to summaries;
    the lines `x:1|ms` and `x_sum:1|ms`. -/

private def cfg0 : Config Int :=
  { rules := [], dObserverType := .summary, dTtl := 0, dBuckets := [], dQuantiles := [], dMaxAge := 0,
    dAgeBuckets := 0, dBufCap := 0, orderingDisabled := false, doFSM := false }
private def p0 : Pipe Int := { mapper := MState.fresh cfg0 }
private def noRx : Rx := fun _ _ => none
private def evObs (name : Bytes) : Ev Int := { kind := .observer, name := name, value := 1, relative := false }

/-- (applied, conflicts, gatherOk) after the events -/
private def outcome (evs : List (Ev Int)) : Option (Nat × Nat × Bool) :=
  match handleEvents p0 noRx [] evs with
  | some (.ok p) => some (p.counts.applied, p.counts.conflicts, p.reg.gatherOk)
  | _ => none

/-- the timer `x` is applied; the timer `x_sum` that follows is now counted as a conflict and dropped alone
    (before the repair: both applied, `(2, 0, false)`), the scrape stays fine, and `x` keeps receiving samples;
    the same with the two names in the other order -/
theorem companion_claims_now_conflict :
    outcome [evObs nameX] = some (1, 0, true) ∧ outcome [evObs nameX, evObs nameXsum] = some (1, 1, true) ∧
    outcome [evObs nameX, evObs nameXsum, evObs nameX] = some (2, 1, true) ∧
    outcome [evObs nameXsum, evObs nameX] = some (1, 1, true) := by
  decide +kernel

end counterexample

end SE.Props.C08
