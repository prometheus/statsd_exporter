import SE.Proofs.Listener
import SE.Proofs.Relay
import SE.Model.System
/-
C18 — Listeners frame lines identically on every transport and account for all of them.
The same payload produces the same events whether it arrives as a UDP datagram, a Unixgram datagram
or a TCP stream: lines are split at newlines only (TCP also strips a carriage return and processes
an unterminated last line at clean end of stream), each line is parsed and relayed exactly once and
counted in the line counter, and a datagram's content is unaffected by datagrams received after it.
Every UDP datagram is either processed or counted as dropped when the packet queue is full, and an
over-long TCP line is counted and closes only that connection.

Model (SE/Model/Listener.lean, from pkg/listener/listener.go and Go's bufio):
 * `datagramLines p = splitOn lf p` — `strings.Split(packet, "\n")` of UDP and Unixgram `HandlePacket`;
 * `UdpQ` — the bounded UDP packet queue, `enqueue buf n` (copy `buf[:n]` or count a drop),
   `process` (handle the oldest packet); here driven by `runUdp s ops` over an ARBITRARY sequence
   `ops` of `UdpOp.enq buf n` / `UdpOp.proc` (a `proc` on an empty queue is a no-op: the goroutine
   would block), i.e. every interleaving of the reader and the processing goroutine;
 * `tcpLinesOfChunks chunks` — `HandleConn`: `bufio.Reader.ReadLine` with a 4096-byte buffer over a
   connection whose successive `Read`s deliver `chunks` (any segmentation: empty chunks, chunks
   larger than the buffer, ...); result `lines` (handed to the parser/relay, each counted in
   `lines_total`) and `tooLong` (`tcp_too_long_lines_total` incremented, connection closed).
Specification (SE/Spec/Listener.lean): `tcpLinesOfStream stream` — framing as a function of the
byte stream alone.

Every theorem below holds for ALL payloads, chunkings, queue capacities and operation sequences
(no size bounds). Helper lemmas: SE/Proofs/Listener.lean, SE/Proofs/Bytes.lean; `datagram_lines_relayed_once`
and `tcp_lines_relayed_once` rest on `relay_quiescent` (SE/Proofs/Relay.lean), the pipeline theorems on
SE/Model/System.lean. The operations of the two-stage reader `UdpL` of the `Listen` loop are defined below,
next to the refinement theorems that speak of them.

Two precise points the informal statement glosses over (both are the behaviour of Go's
`bufio.Reader.ReadLine`, reproduced by model and specification, and confirmed on real sockets):
 * the carriage return is stripped only from lines that are terminated by `\n`; an unterminated
   last line ending in `\r` is handed on WITH the `\r` (`unterminated_tail_keeps_cr`);
 * an empty line is a line on every transport (counted, no event); a stream that ends with `\n`
   has no further (empty) line after it on TCP, while `strings.Split` yields a final empty piece on
   the datagram transports. Hence `tcp_eq_udp` compares the non-empty lines — the ones that are
   parsed and relayed.
-/
namespace SE.Props.C18
open SE

/-! ## 1. TCP: the segmentation of the stream is irrelevant -/

/-- MAIN THEOREM. For every list of chunks (what the successive `Read`s on the connection return —
    any sizes, including empty chunks and chunks larger than bufio's 4096-byte buffer), the
    chunk-level model of `HandleConn`/`bufio.Reader.ReadLine` hands on exactly the lines, and
    reports exactly the "line too long" outcome, that the stream-level specification assigns to
    the concatenation of the chunks. No hypotheses. In particular the fuel `chunks.length + 2`
    that the model gives each `ReadLine`, and the overall fuel of `tcpLinesOfChunks`, always
    suffice. -/
theorem tcp_segmentation_irrelevant (chunks : List Bytes) :
    (tcpLinesOfChunks chunks).lines = (tcpLinesOfStream chunks.flatten).lines ∧
    (tcpLinesOfChunks chunks).tooLong = (tcpLinesOfStream chunks.flatten).tooLong := by
  rw [tcpLinesOfChunks_eq]
  exact ⟨rfl, rfl⟩

/-- Two segmentations of the same byte stream give the same lines and the same outcome. -/
theorem tcp_depends_only_on_stream (chunks1 chunks2 : List Bytes)
    (h : chunks1.flatten = chunks2.flatten) :
    (tcpLinesOfChunks chunks1).lines = (tcpLinesOfChunks chunks2).lines ∧
    (tcpLinesOfChunks chunks1).tooLong = (tcpLinesOfChunks chunks2).tooLong := by
  rw [tcpLinesOfChunks_eq, tcpLinesOfChunks_eq, h]
  exact ⟨rfl, rfl⟩

/-- The step behind the main theorem, and the answer to the fuel question: in ANY reader state
    whose buffer holds at most 4096 bytes, one `ReadLine` with ANY fuel of at least
    `chunks.length + 1` does to the remaining stream (`s.rem` = buffered bytes followed by all bytes
    still to be read) exactly what one step of the specification does (`specRead`: a line and the
    rest of the stream / too long / end of stream), and leaves at most 4096 bytes buffered.
    (A `Read` that does not fit into the free space is split and then does not reduce the number of
    chunks — but the buffer is full afterwards, so the next iteration ends the call.) -/
theorem tcp_readline_step (s : RdSt) (fuel : Nat) (hb : s.buf.length ≤ bufSize)
    (hf : s.chunks.length + 1 ≤ fuel) :
    absRead (s.readLine fuel) = specRead s.rem ∧ (s.readLine fuel).2.buf.length ≤ bufSize :=
  readLine_spec fuel s hb (Nat.le_trans s.need_le hf)

/-! ## 2. TCP lines are the pieces between newlines -/

/-- Exact characterisation of the specification for EVERY stream, in terms of
    `strings.Split(stream, "\n")`: `tcpFrame` walks the pieces — a piece followed by a newline is a
    line with one trailing `\r` stripped, the last piece is the unterminated tail (a line, as it
    is, unless empty), and the first piece of 4096 bytes or more ends the connection as
    "too long". No hypotheses. -/
theorem tcp_frame_exact (stream : Bytes) :
    (tcpLinesOfStream stream).lines = (tcpFrame (splitOn lf stream)).1 ∧
    (tcpLinesOfStream stream).tooLong = (tcpFrame (splitOn lf stream)).2 := by
  rw [tcpLinesOfStream_eq_frame]
  exact ⟨rfl, rfl⟩

/-- Lines are split at newlines only. Hypothesis: every piece of the stream between newlines is
    shorter than 4096 bytes. Then the connection is not closed as "too long", and the lines are:
    every piece but the last with one trailing `\r` stripped, followed by the last piece (the
    unterminated tail) as it is, unless it is empty. -/
theorem tcp_lines_split_at_newline_only (stream : Bytes)
    (hshort : ∀ l ∈ splitOn lf stream, l.length < bufSize) :
    (tcpLinesOfStream stream).tooLong = false ∧
    (tcpLinesOfStream stream).lines =
      (splitOn lf stream).dropLast.map stripCR ++
        (match (splitOn lf stream).getLast? with
         | some t => if t.isEmpty then [] else [t]
         | none => []) := by
  obtain ⟨pre, t, hps⟩ := splitOn_eq_concat lf stream
  rw [hps] at hshort ⊢
  obtain ⟨hpre, ht⟩ := List.forall_mem_append.mp hshort
  rw [tcpLinesOfStream_short hps hpre (ht t (List.mem_singleton_self t))]
  simp

/-- A stream that ends with a newline, `p ++ "\n"` (the normal case): the lines are exactly the
    pieces of `p`, each with one trailing `\r` stripped — no extra empty line for the final newline.
    Hypothesis: every piece of `p` is shorter than 4096 bytes. -/
theorem tcp_lines_terminated (p : Bytes) (hshort : ∀ l ∈ splitOn lf p, l.length < bufSize) :
    (tcpLinesOfStream (p ++ [lf])).tooLong = false ∧
    (tcpLinesOfStream (p ++ [lf])).lines = (splitOn lf p).map stripCR := by
  rw [tcpLinesOfStream_short (splitOn_append_sep lf p []) hshort (by simp [bufSize])]
  simp

/-- Without carriage returns the TCP lines are the datagram lines of the same payload, minus a
    final empty piece. Hypotheses: no `\r` in the payload; every line shorter than 4096 bytes. -/
theorem tcp_lines_no_cr (p : Bytes) (hcr : cr ∉ p)
    (hshort : ∀ l ∈ datagramLines p, l.length < bufSize) :
    (tcpLinesOfStream p).tooLong = false ∧
    (tcpLinesOfStream p).lines =
      if (datagramLines p).getLast? = some [] then (datagramLines p).dropLast else datagramLines p := by
  unfold datagramLines at hshort ⊢
  obtain ⟨h1, h2⟩ := tcp_lines_split_at_newline_only p hshort
  refine ⟨h1, ?_⟩
  rw [h2, List.map_dropLast, map_stripCR_splitOn hcr]
  obtain ⟨pre, t, hps⟩ := splitOn_eq_concat lf p
  rw [hps]
  -- both sides are `pre`, followed by the last piece `t` unless it is empty
  cases t <;> simp

/-- The same payload gives the same lines to parse and relay on the stream transport and on the
    datagram transports: the NON-EMPTY lines coincide (the listeners relay and parse only lines with
    `len(line) > 0`; an empty line produces no event on any transport).
    Hypotheses: no `\r` in the payload; every line shorter than 4096 bytes. -/
theorem tcp_eq_udp (p : Bytes) (hcr : cr ∉ p) (hshort : ∀ l ∈ datagramLines p, l.length < bufSize) :
    (tcpLinesOfStream p).lines.filter (fun l => !l.isEmpty) =
      (datagramLines p).filter (fun l => !l.isEmpty) := by
  rw [(tcp_lines_no_cr p hcr hshort).2]
  obtain ⟨pre, t, hps⟩ := splitOn_eq_concat lf p
  unfold datagramLines
  rw [hps]
  -- an empty last piece `t`, left out on the left, does not pass the filter on the right
  cases t <;> simp

/-- … and end to end for the chunk model: however the kernel segments the payload, the TCP
    listener parses and relays the same non-empty lines as a datagram listener receiving the
    payload in one datagram. Same hypotheses. -/
theorem tcp_chunks_eq_udp (chunks : List Bytes) (hcr : cr ∉ chunks.flatten)
    (hshort : ∀ l ∈ datagramLines chunks.flatten, l.length < bufSize) :
    (tcpLinesOfChunks chunks).tooLong = false ∧
    (tcpLinesOfChunks chunks).lines.filter (fun l => !l.isEmpty) =
      (datagramLines chunks.flatten).filter (fun l => !l.isEmpty) := by
  rw [tcpLinesOfChunks_eq]
  exact ⟨(tcp_lines_no_cr _ hcr hshort).1, tcp_eq_udp _ hcr hshort⟩

/-- The carriage return is stripped from newline-terminated lines only: the unterminated last line
    `b\r` is handed on with its `\r` (as `bufio.Reader.ReadLine` does at EOF). -/
theorem unterminated_tail_keeps_cr :
    (tcpLinesOfStream [97, cr, lf, 98, cr]).lines = [[97], [98, cr]] := by decide

/-! ## 3. An over-long line ends the connection, and only then -/

/-- In terms of pieces: if the pieces of the stream are `pre ++ l :: post` with every piece of
    `pre` shorter than 4096 bytes and `l` of 4096 bytes or more, then the connection ends as
    "too long", the lines before `l` have all been handed on (each is newline-terminated, so each
    with one `\r` stripped), and nothing of `l` or after it is. -/
theorem tcp_long_line_stops_connection (stream : Bytes) (pre : List Bytes) (l : Bytes)
    (post : List Bytes) (hsplit : splitOn lf stream = pre ++ l :: post)
    (hshort : ∀ q ∈ pre, q.length < bufSize) (hlong : bufSize ≤ l.length) :
    (tcpLinesOfStream stream).tooLong = true ∧
    (tcpLinesOfStream stream).lines = pre.map stripCR := by
  rw [tcpLinesOfStream_long hsplit hshort hlong]
  exact ⟨rfl, rfl⟩

/-- In terms of the stream: let the stream be `a ++ b` where `a` is empty or ends with a newline
    (so a line starts at `b`), every line of `a` is shorter than 4096 bytes, and there is no
    newline among the next 4096 bytes (`b` has at least 4096 bytes and none of its first 4096 is
    `\n`). Then the connection ends as "too long" and it has handed on exactly the lines of `a`. -/
theorem tcp_long_line_stops_connection_stream (a b : Bytes)
    (ha : a = [] ∨ ∃ a', a = a' ++ [lf])
    (hshort : ∀ q ∈ splitOn lf a, q.length < bufSize)
    (hlen : bufSize ≤ b.length) (hnl : indexOf lf (b.take bufSize) = none) :
    (tcpLinesOfStream (a ++ b)).tooLong = true ∧
    (tcpLinesOfStream (a ++ b)).lines = (tcpLinesOfStream a).lines := by
  obtain ⟨l, post, hb⟩ := List.exists_cons_of_ne_nil (splitOn_ne_nil lf b)
  have hl := splitOn_head_length hb hlen (indexOf_eq_none_iff.mp hnl)
  rcases ha with rfl | ⟨a', rfl⟩
  · rw [List.nil_append, tcpLinesOfStream_long (pre := []) hb nofun hl]
    exact ⟨rfl, by decide⟩
  · rw [splitOn_append_sep] at hshort
    have hshort' := (List.forall_mem_append.mp hshort).1
    have hs : splitOn lf (a' ++ lf :: b) = splitOn lf a' ++ l :: post := hb ▸ splitOn_append_sep lf a' b
    rw [List.append_assoc, List.singleton_append, tcpLinesOfStream_long hs hshort' hl,
      (tcp_lines_terminated a' hshort').2]
    exact ⟨rfl, rfl⟩

/-- Conversely, "too long" happens only for a long line: if the outcome is "too long" then some
    piece of the stream has 4096 bytes or more. -/
theorem tcp_too_long_only_if_long_line (stream : Bytes) (h : (tcpLinesOfStream stream).tooLong = true) :
    ∃ l ∈ splitOn lf stream, bufSize ≤ l.length := by
  apply Classical.byContradiction
  intro hn
  have hshort : ∀ l ∈ splitOn lf stream, l.length < bufSize :=
    fun l hl => Nat.lt_of_not_le fun h1 => hn ⟨l, hl, h1⟩
  rw [(tcp_lines_split_at_newline_only stream hshort).1] at h
  cases h

/-! ## 4. Each line exactly once -/

/-- Datagram transports (UDP, Unixgram): the lines are a function of the datagram's bytes alone
    (`datagramLines` has no other argument); re-joining them with newlines gives back the datagram —
    no byte is lost, duplicated or moved to another line — and no line contains a newline. -/
theorem each_line_once (p : Bytes) :
    joinWith lf (datagramLines p) = p ∧ ∀ l ∈ datagramLines p, lf ∉ l :=
  ⟨joinWith_splitOn lf p, fun _ hl => not_mem_of_mem_splitOn hl⟩

/-- … and the lines are the only such decomposition: any list of newline-free lines that re-joins
    to the datagram is `datagramLines` of it. -/
theorem datagram_lines_unique (p : Bytes) (ls : List Bytes) (hne : ls ≠ [])
    (hnl : ∀ l ∈ ls, lf ∉ l) (hjoin : joinWith lf ls = p) : datagramLines p = ls := by
  rw [← hjoin]
  exact splitOn_joinWith hne hnl

/-- TCP, payload `p` sent with a final newline, without `\r`, every line shorter than 4096 bytes:
    the connection hands on exactly the datagram lines of `p`, so re-joining them gives back `p`. -/
theorem each_line_once_tcp (p : Bytes) (hcr : cr ∉ p)
    (hshort : ∀ l ∈ datagramLines p, l.length < bufSize) :
    (tcpLinesOfStream (p ++ [lf])).lines = datagramLines p ∧
    joinWith lf (tcpLinesOfStream (p ++ [lf])).lines = p := by
  have h : (tcpLinesOfStream (p ++ [lf])).lines = datagramLines p :=
    (tcp_lines_terminated p hshort).2.trans (map_stripCR_splitOn hcr)
  exact ⟨h, h ▸ joinWith_splitOn lf p⟩

/-! ## 4b. … and relayed exactly once -/

/-- Listener and relay composed. Let the relay (packet length `n`) be fed by listeners that handle the datagrams
    `dgrams` (in the order in which their `RelayLine` calls reach the relay; `hcalls`: the `.line` labels of the
    schedule are exactly `relayCallsOf` of the datagrams' lines), under ANY schedule of the sender goroutine's steps in
    between, all sends succeeding. Once channel and buffer are empty (at the latest after the next tick,
    `SE.Props.C17.tick_forwards_everything_dequeued`), the bytes received by the target are exactly the non-empty lines
    of the datagrams that fit, in order, each exactly once and followed by one newline. -/
theorem datagram_lines_relayed_once (n : Nat) (dgrams : List Bytes) (sched : List RelayLabel) (s : RelaySt)
    (hcalls : linesOf sched = relayCallsOf (dgrams.flatMap datagramLines))
    (h : relayRun (relayInit n) sched = some s) (hok : AllOk sched) (hc : s.chan = []) (hb : s.buffer = []) :
    s.sent.flatten =
      (((dgrams.flatMap datagramLines).filter (lineFits n)).map (· ++ [lf])).flatten := by
  rw [relay_quiescent h hok hc hb, hcalls, filter_lineFits_relayCallsOf]
  congr 1
  apply List.map_congr_left
  intro l hl
  obtain ⟨p, _, hlp⟩ := List.mem_flatMap.mp (List.mem_filter.mp hl).1
  -- a datagram line holds no newline, so `terminate` appends one
  rw [terminate, newline_eq_lf]
  exact if_neg fun hlast => (each_line_once p).2 l hlp (List.mem_of_getLast? (beq_iff_eq.mp hlast))

/-- the same for a TCP connection: the `RelayLine` calls are `relayCallsOf` of the connection's lines -/
theorem tcp_lines_relayed_once (n : Nat) (stream : Bytes) (sched : List RelayLabel) (s : RelaySt)
    (hcalls : linesOf sched = relayCallsOf (tcpLinesOfStream stream).lines)
    (h : relayRun (relayInit n) sched = some s) (hok : AllOk sched) (hc : s.chan = []) (hb : s.buffer = []) :
    s.sent.flatten = (((tcpLinesOfStream stream).lines.filter (lineFits n)).map terminate).flatten := by
  rw [relay_quiescent h hok hc hb, hcalls, filter_lineFits_relayCallsOf]

/-- non-vacuity: a schedule that satisfies the hypotheses for the datagram "ab\n\ncd" and packet length 8 -/
example : ∃ sched s, linesOf sched = relayCallsOf ([[97, 98, 10, 10, 99, 100]].flatMap datagramLines) ∧
    relayRun (relayInit 8) sched = some s ∧ AllOk sched ∧ s.chan = [] ∧ s.buffer = [] ∧
    s.sent = [[97, 98, 10, 99, 100, 10]] :=
  ⟨[.line [97, 98], .line [99, 100], .deq true, .deq true, .tick true], _, by decide, rfl, by decide, rfl, rfl, rfl⟩

/-! ## 4c. The same payload produces the same exporter state on every transport -/

section endToEnd
variable {V : Type} [NumOps V]

/-- an empty line produces no event: the exporter state is untouched -/
theorem empty_line_is_noop (fl : ParserFlags) (pf : Pf V) (rx : Rx) (p : Pipe V) (rest : List (PipeOp V)) :
    runOps rx p (lineOp fl pf [] :: rest) = runOps rx p rest :=
  -- by computation: `lineToEvents` answers the empty line with no events, and `handleEvents` of none returns `p`
  rfl

/-- … hence only the non-empty lines of a payload matter -/
theorem only_nonempty_lines_matter (fl : ParserFlags) (pf : Pf V) (rx : Rx) (ls : List Bytes) (p : Pipe V)
    (rest : List (PipeOp V)) :
    runOps rx p (ls.map (lineOp fl pf) ++ rest) =
      runOps rx p ((ls.filter fun l => !l.isEmpty).map (lineOp fl pf) ++ rest) := by
  induction ls generalizing p with
  | nil => rfl
  | cons l ls ih =>
    cases l with
    | nil => exact (empty_line_is_noop fl pf rx p _).trans (ih p)
    | cons b bs =>
      -- the filter keeps a non-empty line, so both histories begin with its `.line` step
      show runOps rx p (.line _ _ :: _) = runOps rx p (.line _ _ :: _)
      simp only [runOps]
      generalize handleEvents p rx _ _ = r
      rcases r with _ | _ | p'
      · rfl
      · rfl
      · exact ih p'

/-- **Transport independence, end to end.** A payload without `\r` whose lines are shorter than 4096 bytes leaves the
    exporter (mapper, registry, internal counters of the pipeline model) in the same state — including the same panic or
    "outside the model" outcome — whether it arrives as one UDP/Unixgram datagram or as the byte stream of a TCP
    connection, for every parser configuration, number parser, regex oracle, starting state and continuation `rest`. -/
theorem transport_independent (fl : ParserFlags) (pf : Pf V) (rx : Rx) (p : Pipe V) (payload : Bytes)
    (hcr : cr ∉ payload) (hshort : ∀ l ∈ datagramLines payload, l.length < bufSize) (rest : List (PipeOp V)) :
    runOps rx p (tcpOps fl pf payload ++ rest) = runOps rx p (datagramOps fl pf payload ++ rest) := by
  unfold tcpOps datagramOps
  rw [only_nonempty_lines_matter, only_nonempty_lines_matter fl pf rx (datagramLines payload), tcp_eq_udp payload hcr hshort]

/-- **Packing is irrelevant.** Sending two payloads in one datagram, separated by a newline, is the same as sending them
    in two datagrams one after the other (so a client may batch lines into datagrams in any way). -/
theorem datagram_packing_irrelevant (fl : ParserFlags) (pf : Pf V) (d1 d2 : Bytes) :
    datagramOps fl pf (d1 ++ lf :: d2) = datagramOps fl pf d1 ++ datagramOps fl pf d2 := by
  unfold datagramOps datagramLines
  rw [splitOn_append_sep, List.map_append]

/-- the exporter state after a sequence of datagrams is the state after the sequence of their lines -/
theorem datagrams_are_their_lines (fl : ParserFlags) (pf : Pf V) (ds : List Bytes) :
    ds.flatMap (datagramOps fl pf) = (ds.flatMap datagramLines).map (lineOp fl pf) :=
  List.map_flatMap.symm

/-- non-vacuity: the payload "a:1|c\n\nb:2|g" (with an empty line in the middle) meets the hypotheses of
    `transport_independent`, and its TCP and datagram line lists really differ in shape only by what the theorem ignores -/
example : cr ∉ ([97, 58, 49, 124, 99, 10, 10, 98, 58, 50, 124, 103] : Bytes) ∧
    (∀ l ∈ datagramLines [97, 58, 49, 124, 99, 10, 10, 98, 58, 50, 124, 103], l.length < bufSize) ∧
    (datagramLines [97, 58, 49, 124, 99, 10, 10, 98, 58, 50, 124, 103]).length = 3 := by decide +kernel

end endToEnd

/-! ## 5. The UDP packet queue -/

/-- Accounting. After ANY sequence of operations from the empty queue of capacity `c`:
    `udp_packets_total` is the number of `EnqueueUdpPacket` calls, and every one of those datagrams
    is exactly one of: processed (`successfulProcs` = the processing steps that took a packet off
    the queue), counted in `udp_packet_drops_total`, or still waiting in the queue; the queue never
    holds more than `c` packets. -/
theorem udp_accounting (c : Nat) (ops : List UdpOp) :
    let s := runUdp { cap := c } ops
    s.packets = numEnq ops ∧
    numEnq ops = successfulProcs { cap := c } ops + s.drops + s.queue.length ∧
    s.queue.length ≤ c ∧ s.cap = c := by
  intro s
  have h : UdpRel c s (udpAcct c ops) := udp_reachable c ops
  obtain ⟨he, hp, _⟩ := udpAcct_spec c ops
  refine ⟨h.packets.trans he, ?_, h.room, h.cap⟩
  -- every `enq` was accepted or dropped, and the queue holds the accepted packets not yet processed
  rw [← he, ← hp, h.total, h.drops, h.queue, List.length_drop]
  have := h.le
  omega

/-- Isolation, explicit formula. After any operation sequence, with `a = udpAcct c ops` (computed
    from the operation sequence and the capacity alone): the lines handed on are the concatenation,
    in arrival order, of `datagramLines` of the first `a.processed` accepted packets; the queue
    holds the remaining accepted packets; and every accepted packet is the copy `buf.take n` made
    by one of the `enq buf n` operations (in order, as a subsequence of all enqueued copies). Each
    handled line group is therefore a function of its OWN datagram's bytes at enqueue time — the
    later contents of the shared read buffer, and later datagrams, do not enter. -/
theorem udp_packet_isolated (c : Nat) (ops : List UdpOp) :
    let s := runUdp { cap := c } ops
    let a := udpAcct c ops
    s.handled = ((a.accepted.take a.processed).map datagramLines).flatten ∧
    s.queue = a.accepted.drop a.processed ∧
    a.accepted.Sublist (ops.filterMap UdpOp.payload) ∧
    a.processed = successfulProcs { cap := c } ops := by
  intro s a
  have h := udp_reachable c ops
  obtain ⟨_, hp, hsub⟩ := udpAcct_spec c ops
  exact ⟨h.handled, h.queue, hsub, hp⟩

/-- Isolation, two runs. Let two operation sequences share the prefix `pre` and continue with
    `post` resp. `post'` of the same shape (the same kinds of operations in the same order; the
    later `enq`s may carry ANY other buffers and lengths). Then the packets accepted during `pre`
    are the first accepted packets of both runs, unchanged; both runs accept, drop and process the
    same number of packets; and the line groups handed on for the packets accepted during `pre`
    (`groups.take k`) are identical in both runs. -/
theorem udp_later_datagrams_irrelevant (c : Nat) (pre post post' : List UdpOp)
    (hshape : SameShape post post') :
    let a0 := udpAcct c pre
    let a := udpAcct c (pre ++ post)
    let a' := udpAcct c (pre ++ post')
    a.accepted.take a0.accepted.length = a0.accepted ∧
    a'.accepted.take a0.accepted.length = a0.accepted ∧
    a.accepted.length = a'.accepted.length ∧ a.processed = a'.processed ∧ a.dropped = a'.dropped ∧
    a.groups.take a0.accepted.length = a'.groups.take a0.accepted.length ∧
    (runUdp { cap := c } (pre ++ post)).handled = a.groups.flatten ∧
    (runUdp { cap := c } (pre ++ post')).handled = a'.groups.flatten := by
  intro a0 a a'
  have h := udpAcct_alike c pre hshape
  have t1 := (List.prefix_iff_eq_take.mp h.left).symm
  have t2 := (List.prefix_iff_eq_take.mp h.right).symm
  -- of the packets accepted during `pre`, an account has handed on those it has processed
  have key : ∀ b : UdpAcct, b.accepted.take a0.accepted.length = a0.accepted →
      b.groups.take a0.accepted.length = (a0.accepted.take b.processed).map datagramLines := by
    intro b hb
    rw [UdpAcct.groups, ← List.map_take, List.take_take, Nat.min_comm, ← List.take_take, hb]
  refine ⟨t1, t2, h.length, h.processed, h.dropped, ?_, (udp_reachable c _).handled, (udp_reachable c _).handled⟩
  rw [key a t1, key a' t2, h.processed]

/-- A datagram is dropped iff the queue is full. In every reachable state `s` (any operation
    sequence from the empty queue of capacity `c`), `EnqueueUdpPacket(buf, n)` always counts the
    packet, and: the drop counter moves iff the queue holds `c` packets; if it does, queue and
    handled lines are unchanged; if it does not, the copy `buf.take n` is appended to the queue and
    no drop is counted. -/
theorem udp_drop_iff_full (c : Nat) (ops : List UdpOp) (buf : Bytes) (n : Nat) :
    let s := runUdp { cap := c } ops
    let s' := s.enqueue buf n
    s'.packets = s.packets + 1 ∧
    (s'.drops = s.drops + 1 ↔ s.queue.length = c) ∧
    (s.queue.length = c → s'.queue = s.queue ∧ s'.handled = s.handled ∧ s'.drops = s.drops + 1) ∧
    (s.queue.length < c → s'.queue = s.queue ++ [buf.take n] ∧ s'.handled = s.handled ∧
      s'.drops = s.drops) := by
  intro s s'
  have h : UdpRel c s _ := udp_reachable c ops
  -- a reachable queue is never over its capacity, so "no room" means exactly `c` packets
  rcases Nat.lt_or_eq_of_le h.room with hc | hc
  · have e : s' = { s with packets := s.packets + 1, queue := s.queue ++ [buf.take n] } := if_pos (h.cap ▸ hc)
    rw [e]
    exact ⟨rfl, ⟨fun h1 => absurd h1 (Nat.ne_add_one _), fun h1 => absurd h1 (Nat.ne_of_lt hc)⟩,
      fun h1 => absurd h1 (Nat.ne_of_lt hc), fun _ => ⟨rfl, rfl, rfl⟩⟩
  · have e : s' = { s with packets := s.packets + 1, drops := s.drops + 1 } :=
      if_neg (Nat.not_lt.mpr (Nat.le_of_eq (h.cap.trans hc.symm)))
    rw [e]
    exact ⟨rfl, ⟨fun _ => hc, fun _ => rfl⟩, fun _ => ⟨rfl, rfl, rfl⟩, fun h1 => absurd hc (Nat.ne_of_lt h1)⟩

/-! ## The `Listen` loop with a held processing goroutine is the packet queue with one more slot

The `udpl` stream drives the real `Listen` loop on a socket while a gated parser holds the processing goroutine, and
compares it with `UdpQ` of capacity `cap + 1`. That choice of model is justified here: the two-stage model `UdpL` (one
packet in flight + a channel of `cap`) refines `UdpQ (cap + 1)` step by step, so every `UdpQ` theorem above (accounting,
drop iff full, a datagram's lines are those of its own bytes) speaks about the loop with its consumer behind as well. -/

inductive UdpLOp
  | recv (buf : Bytes) (n : Nat)
  | release
  deriving Repr

def stepUdpL (s : UdpL) : UdpLOp → UdpL
  | .recv buf n => s.recv buf n
  | .release => s.release.getD s

def UdpLOp.toQ : UdpLOp → UdpOp
  | .recv buf n => .enq buf n
  | .release => .proc

theorem udpl_recv_refines (s : UdpL) (h : s.Inv) (buf : Bytes) (n : Nat) :
    (s.recv buf n).abs = s.abs.enqueue buf n ∧ (s.recv buf n).Inv := by
  unfold UdpL.Inv at h ⊢
  cases hi : s.inflight with
  | none => simp [UdpL.recv, UdpL.abs, UdpQ.enqueue, hi, h hi]
  | some p =>
    -- the channel has room for `cap` iff the queue with the packet in flight at its head has room for `cap + 1`
    by_cases hc : s.queue.length < s.cap <;> simp [UdpL.recv, UdpL.abs, UdpQ.enqueue, hi, hc]

theorem udpl_release_refines (s : UdpL) (h : s.Inv) :
    (s.release.map UdpL.abs) = s.abs.process ∧ (∀ s', s.release = some s' → s'.Inv) := by
  -- with inflight packet and channel written out, `release` and `process` compute
  obtain ⟨cap, infl, q, pk, dr, hd⟩ := s
  cases infl with
  | none =>
    obtain rfl : q = [] := h rfl
    exact ⟨rfl, nofun⟩
  | some p =>
    cases q with
    | nil => exact ⟨rfl, by rintro _ ⟨⟩; exact fun _ => rfl⟩
    | cons q rest => exact ⟨rfl, by rintro _ ⟨⟩; exact nofun⟩

theorem udpl_step_refines (s : UdpL) (h : s.Inv) (op : UdpLOp) :
    (stepUdpL s op).abs = stepUdp s.abs op.toQ ∧ (stepUdpL s op).Inv := by
  cases op with
  | recv buf n => exact udpl_recv_refines s h buf n
  | release =>
    obtain ⟨h1, h2⟩ := udpl_release_refines s h
    rw [stepUdpL, UdpLOp.toQ, stepUdp, ← h1]
    -- a `release` without a packet in flight changes nothing on either side
    cases hr : s.release with
    | none => exact ⟨rfl, h⟩
    | some s' => exact ⟨rfl, h2 s' hr⟩

/-- **The `Listen` loop with its consumer held back behaves as the packet queue with `cap + 1` slots**, for every
    sequence of arrivals and releases: same counters, same pending packets in the same order, same lines handed on. -/
theorem udpl_refines_queue (c : Nat) (ops : List UdpLOp) :
    (ops.foldl stepUdpL { cap := c }).abs = runUdp { cap := c + 1 } (ops.map UdpLOp.toQ) ∧
    (ops.foldl stepUdpL { cap := c }).Inv := by
  rw [runUdp, List.foldl_map]
  exact List.foldl_rel (r := fun (s : UdpL) q => s.abs = q ∧ s.Inv) ⟨rfl, fun _ => rfl⟩
    fun op _ s _ h => h.1 ▸ udpl_step_refines s h.2 op

/-- hence a datagram is dropped by the loop iff one packet is in flight and `cap` are waiting -/
theorem udpl_drop_iff_full (c : Nat) (ops : List UdpLOp) (buf : Bytes) (n : Nat) :
    let s := ops.foldl stepUdpL { cap := c }
    ((s.recv buf n).drops = s.drops + 1 ↔ s.inflight.toList.length + s.queue.length = c + 1) := by
  intro s
  obtain ⟨e, hinv⟩ := udpl_refines_queue c ops
  have h1 := (udp_drop_iff_full (c + 1) (ops.map UdpLOp.toQ) buf n).2.1
  rw [← e, ← (udpl_recv_refines s hinv buf n).1] at h1
  -- `s.abs.queue` is `s.inflight.toList ++ s.queue`
  rw [← List.length_append]
  exact h1

-- non-vacuity: capacity 1; d1 goes in flight, d2 waits, d3 is dropped, a release hands d1 on and takes d2
example :
    let s := [UdpLOp.recv [100, 49] 2, .recv [100, 50] 2, .recv [100, 51] 2, .release].foldl stepUdpL { cap := 1 }
    s.inflight = some [100, 50] ∧ s.queue = [] ∧ s.packets = 3 ∧ s.drops = 1 ∧ s.handled = [[100, 49]] := by decide +kernel

/-! ## Non-vacuity -/

/-- the payload `a\r\nbb\n\nc`: a CRLF line, an LF line, an empty line, an unterminated tail -/
def exPayload : Bytes := [97, cr, lf, 98, 98, lf, lf, 99]

example : (tcpLinesOfStream exPayload).lines = [[97], [98, 98], [], [99]] := by decide +kernel
example : (tcpLinesOfStream exPayload).tooLong = false := by decide +kernel
-- three segmentations of it: one chunk; byte by byte with empty reads in between; split inside CRLF
example : (tcpLinesOfChunks [exPayload]).lines = [[97], [98, 98], [], [99]] := by decide +kernel
example : (tcpLinesOfChunks [[97], [], [cr], [lf], [], [98], [98], [lf], [lf], [99], []]).lines =
    [[97], [98, 98], [], [99]] := by decide +kernel
example : (tcpLinesOfChunks [[97, cr], [lf, 98, 98, lf, lf, 99]]).lines = [[97], [98, 98], [], [99]] := by
  decide +kernel
-- the datagram transports keep the `\r` and see the same pieces
example : datagramLines exPayload = [[97, cr], [98, 98], [], [99]] := by decide +kernel
-- without `\r` and with a final newline: TCP lines = datagram lines minus the final empty piece
example : (tcpLinesOfStream [97, lf, 98, lf]).lines = [[97], [98]] := by decide +kernel
example : datagramLines [97, lf, 98, lf] = [[97], [98], []] := by decide +kernel

/-! A line of exactly 4096 bytes before its newline is too long, one of 4095 bytes is not — in
every segmentation. Each outcome is read off the pieces of the stream between newlines
(`tcpLinesOfStream_long`, `tcpLinesOfStream_short`), and the pieces are named, not computed: they
hold no newline and re-join to the stream (`datagram_lines_unique`). The 4096-element lists are
never unfolded (`-List.reduceReplicate`: that simproc would write them out). -/

def x4096 : Bytes := List.replicate 4096 120
def x4095 : Bytes := List.replicate 4095 120

/-- both components of an outcome at once -/
def outcomeIs (o : TcpOut) (ls : List Bytes) (b : Bool) : Bool := o.tooLong == b && o.lines == ls

-- `a\r\n`, then 4096 `x`, then `\nb\n`, cut inside the CRLF, with an empty read, the long line
-- spread over a chunk larger than the buffer, the newline in its own chunk: `a` is handed on, then
-- the connection ends as too long
set_option maxRecDepth 100000 in
example : outcomeIs (tcpLinesOfChunks [[97, cr], [], [lf] ++ x4096, [lf], [98, lf]]) [[97]] true = true := by
  rw [tcpLinesOfChunks_eq, tcpLinesOfStream_long
    (datagram_lines_unique _ ([[97, cr]] ++ x4096 :: [[98], []]) (by simp)
      (by simp [x4096, lf, cr, -List.reduceReplicate]) (by simp [joinWith]))
    (by simp [bufSize]) (by simp [x4096, bufSize, -List.reduceReplicate])]
  decide
-- 4095 bytes and the newline fit: nothing is too long, the tail `b` is a line at EOF
set_option maxRecDepth 100000 in
example : outcomeIs (tcpLinesOfChunks [[97, cr, lf] ++ x4095, [lf, 98]]) [[97], x4095, [98]] false = true := by
  have hc : cr ∉ x4095 := by simp [x4095, cr, -List.reduceReplicate]
  rw [tcpLinesOfChunks_eq, tcpLinesOfStream_short
    (datagram_lines_unique _ ([[97, cr], x4095] ++ [[98]]) (by simp)
      (by simp [x4095, lf, cr, -List.reduceReplicate]) (by simp [joinWith]))
    (by simp [x4095, bufSize, -List.reduceReplicate]) (by simp [bufSize])]
  simp [outcomeIs, stripCR_of_not_mem hc, show stripCR [97, cr] = [97] from by decide]
-- … but 4095 bytes followed by CRLF do not: the `\n` is the 4097th byte of the line
set_option maxRecDepth 100000 in
example : (tcpLinesOfChunks [x4095 ++ [cr, lf]]).tooLong = true := by
  rw [tcpLinesOfChunks_eq, tcpLinesOfStream_long
    (datagram_lines_unique _ ([] ++ (x4095 ++ [cr]) :: [[]]) (by simp)
      (by simp [x4095, lf, cr, -List.reduceReplicate]) (by simp [joinWith]))
    (by simp) (by simp [x4095, bufSize, -List.reduceReplicate])]
-- the specification on the first stream, and the hypothesis of `tcp_long_line_stops_connection` for it
set_option maxRecDepth 100000 in
example : outcomeIs (tcpLinesOfStream ([97, cr, lf] ++ x4096 ++ [lf, 98, lf])) [[97]] true = true := by
  rw [tcpLinesOfStream_long
    (datagram_lines_unique _ ([[97, cr]] ++ x4096 :: [[98], []]) (by simp)
      (by simp [x4096, lf, cr, -List.reduceReplicate]) (by simp [joinWith]))
    (by simp [bufSize]) (by simp [x4096, bufSize, -List.reduceReplicate])]
  decide
set_option maxRecDepth 100000 in
example : splitOn lf ([97, cr, lf] ++ x4096 ++ [lf, 98, lf]) = [[97, cr]] ++ x4096 :: [[98], []] :=
  datagram_lines_unique _ _ (by simp) (by simp [x4096, lf, cr, -List.reduceReplicate]) (by simp [joinWith])
-- a reader state with a chunk larger than the free space: the fill splits the chunk
example : (RdSt.fill { buf := [1, 2], chunks := [List.replicate 5000 7] }).map
    (fun s => (s.buf.length, s.chunks.map (·.length))) = some (4096, [906]) := by
  -- stated for any chunk of 5000 bytes, so that nothing unfolds the 5000-element list
  have key : ∀ c : Bytes, c.length = 5000 → (RdSt.fill { buf := [1, 2], chunks := [c] }).map
      (fun s => (s.buf.length, s.chunks.map (·.length))) = some (4096, [906]) := by
    intro c hl
    simp [RdSt.fill, bufSize, hl, List.length_take, List.length_drop]
  exact key _ (List.length_replicate ..)

/-! The UDP queue with capacity 1: the second datagram arrives while the first is still queued and
is dropped; the shared read buffer is overwritten in between, the queued copy is not. -/

def exOps : List UdpOp :=
  [.enq [97, lf, 98, 0, 0] 3,      -- datagram `a\nb` in a 5-byte read buffer: accepted (copy of 3 bytes)
   .enq [99, 99, 99, 0, 0] 3,      -- buffer overwritten by datagram `ccc`: queue full, dropped
   .proc,                          -- handles `a\nb`
   .proc,                          -- queue empty: nothing happens
   .enq [100, lf, 99, 0, 0] 2]     -- datagram `d\n`: accepted, still queued

example : (runUdp { cap := 1 } exOps).packets = 3 := by decide +kernel
example : (runUdp { cap := 1 } exOps).drops = 1 := by decide +kernel
example : (runUdp { cap := 1 } exOps).handled = [[97], [98]] := by decide +kernel
example : (runUdp { cap := 1 } exOps).queue = [[100, lf]] := by decide +kernel
example : successfulProcs { cap := 1 } exOps = 1 ∧ numEnq exOps = 3 := by decide +kernel
example : (udpAcct 1 exOps).accepted = [[97, lf, 98], [100, lf]] ∧ (udpAcct 1 exOps).processed = 1 ∧
    (udpAcct 1 exOps).dropped = 1 := by decide +kernel
-- capacity 0: everything is dropped, nothing is ever handled
example : (runUdp { cap := 0 } exOps).drops = 3 ∧ (runUdp { cap := 0 } exOps).handled = [] := by decide +kernel
example : SameShape [.enq [1] 1, .proc] [.enq [2, 3] 2, .proc] := .enq _ _ _ _ (.proc .nil)

end SE.Props.C18
