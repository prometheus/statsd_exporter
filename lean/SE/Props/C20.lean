import SE.Model.Sync
import SE.Proofs.Sync
import SE.Proofs.AccessTable
/-
C20 — The concurrent pipeline is free of data races.

The obligation that is re-checked on every run: the lock/ownership discipline holds on the access
table that /verif/extract regenerates from the current source (`SE.Gen.accessTable`), with no
exceptions (the table is evaluated in SE/Proofs/AccessTable.lean). Together with `SE.Props.C20.discipline_no_race` (generic: a state in which two goroutines
are simultaneously at conflicting accesses is unreachable under the discipline) this gives race
freedom of the modelled accesses. The race detector runs of the check are the *search* for a concrete
racing pair, never the proof.
-/
namespace SE.Props.C20
open SE SE.Gen

/-- every lock operation in the extracted methods is a top-level statement of its function: the
    extractor's lock-region recognition applies everywhere (nothing was guessed) -/
theorem locking_is_regular : Gen.irregularLocking = [] := by decide

/-- the concurrently used packages recycle no memory through a `sync.Pool`: ownership of pooled objects changes hands
    without any access the table could see (seeded change W20), so a pool puts the code outside the abstraction this
    theorem family speaks about -/
theorem no_object_pools : Gen.syncPools = [] := by decide

/-- the concurrently used packages keep no package-level mutable state (a package variable holding a channel, a map or
    a made container, or one that a function assigns to): such state is shared by every goroutine that enters the package
    and has no receiver field the table could attribute it to (seeded change X18: a channel-based free list of datagram
    buffers, through which a buffer had two owners). Like a pool it puts the code outside the abstraction. -/
theorem no_package_level_state : Gen.packageLevelState = [] := by decide

/-- no location of the extracted table has an unprotected conflicting pair of accesses -/
theorem no_racy_location : racyLocations Gen.accessTable = [] := by
  rw [racyLocations, accessTable_checked.1]; rfl

/-- the discipline holds on the current source, with no exception -/
theorem discipline_holds : Discipline Gen.accessTable [] := by
  intro l hl
  rw [no_racy_location] at hl
  cases hl

/-- non-vacuity: the table contains conflicting accesses that the discipline has to (and does) order -/
theorem table_is_nontrivial :
    (accRows Gen.accessTable).length ≥ 30 ∧
    ((accRows Gen.accessTable).any fun a => (accRows Gen.accessTable).any fun b => conflicting a b) = true :=
  accessTable_checked.2

/-- the discipline is not satisfied by every table: the repaired LRU defect (Get under the read lock while
    groupcache's Get reorders its list) violates it -/
theorem lru_rlock_violates :
    racyLocations [⟨"lruCache", "Get", "lruCache.cache.Get()", false, [("lock", false)]⟩] = ["lru.Cache"] := by decide +kernel

/-- … and so does the repaired `Defaults` defect (read with no lock by the exporter while reload writes it) -/
theorem defaults_unlocked_violates :
    racyLocations [⟨"Exporter", "handleEvent", "Exporter.Mapper.Defaults", false, []⟩,
                   ⟨"MetricMapper", "InitFromYAMLString", "MetricMapper.Defaults", true, [("mutex", true)]⟩] = ["MetricMapper.Defaults"] := by
  decide +kernel

/-! ### what the discipline means (semantics and proofs: SE/Proofs/Sync.lean) -/
open SE.Sync

/-- mutual exclusion of the lock table in every reachable state of the thread/lock semantics: a lock
    held exclusively by one goroutine is held by no other goroutine in any mode -/
theorem lock_table_mutex {st : State} (h : Reachable st) : LockInv st := lockInv_reachable h

/-- **the discipline excludes data races** (generic in the table): if no pair of `rows` violates the
    discipline, then in every reachable state whose goroutines perform only accesses of `rows`, holding
    at each access the locks (in the modes) and running in the role its row claims, there are no two
    distinct goroutines simultaneously about to access the same location, one of them writing -/
theorem discipline_no_race {rows : List Acc} (hv : violations rows = []) {st : State}
    (hreach : Reachable st) (hrows : ProgIn rows st) (hheld : AccessHeld st) : ¬ RaceState st :=
  SE.Sync.discipline_no_race hv hreach hrows hheld

/-- the table regenerated from the current source has no violating pair -/
theorem no_violation : violations (accRows Gen.accessTable) = [] :=
  violations_nil_of_racyLocations_nil no_racy_location

/-- **race freedom of the current source's access table**: goroutines that perform the extracted
    accesses under the extracted locks never reach a state in which two of them are simultaneously at
    conflicting accesses -/
theorem current_source_race_free {st : State} (hreach : Reachable st)
    (hrows : ProgIn (accRows Gen.accessTable) st) (hheld : AccessHeld st) : ¬ RaceState st :=
  SE.Sync.discipline_no_race no_violation hreach hrows hheld

/-- the same with `AccessHeld` discharged: for goroutines whose programs are sequences of single-lock
    regions / bare accesses over rows of the current table (each region's rows claiming at most the
    region's lock, and the goroutine's role), no schedule from the initial state reaches a race -/
theorem current_source_regions_race_free {s0 st : State} (hinit : Initial s0)
    (hsys : SegSystem (accRows Gen.accessTable) s0) (hreach : Reach s0 st) : ¬ RaceState st :=
  segSystem_no_race no_violation hinit hsys hreach

/-- non-vacuity of the semantics: a disciplined writer/reader system reaches a state with the writer at
    its access and the readers blocked; an undisciplined one reaches a race state -/
theorem semantics_is_nontrivial :
    (Reachable Example.sysW ∧ stepAt Example.sysW 1 = none) ∧
    (∃ st, Reachable st ∧ AccessHeld st ∧ RaceState st) :=
  ⟨⟨Example.writer_in_readers_blocked.1, Example.writer_in_readers_blocked.2.2.2.1⟩,
   Example.bad_race_reachable⟩

end SE.Props.C20
