import SE.Proofs.GlobTemplate
import SE.Props.C04
/-
C11 — Capture references in names and labels expand as documented.

Specification. `expandSpec caps` (SE/Spec/Mapping.lean) is the template syntax Go documents for
`regexp.Expand`, with captures numbered from 1 and no named groups: a reference is `$name` or `${name}`
where `name` is the longest run of letters, digits and `_` (in Go's, i.e. Unicode's, sense: the
rune-wise `extract`, modelled by `rxExtractU`/`nameRune`); `$$` is a literal `$`; a purely numeric name
`n ≥ 1` (decimal, no leading zero) is replaced by the n-th capture, empty when out of range; every other
name by the empty string; a `$` that starts no reference and every other byte are copied. The result is
an `Option`: `none` = a reference name contains a rune outside the modelled Unicode fragment (lead bytes
0xCA..0xF4), where nothing is specified.

Models. Two implementations are compared with it: Go's own `regexp.Expand` (`rxExpand`, used for regex
rules) and the glob rules' `NewTemplateFormatter`/`Format` (`compileTemplate`/`Formatter.format`,
SE/Model/Template.lean): `%` is escaped, ONE left-to-right pass replaces `$$` by `$`, a usable reference
by `%s` (recording its index) and any other well-formed reference by nothing, and `Sprintf` puts the
captures back; a template in which the pass saw nothing is returned as it is. `Format` answers `none`
exactly when the template is flagged `unmodelled`.

Proved — for ALL templates, capture counts and captures, no guard:
  * `glob_format_eq_spec`: formatter = specification (equality of `Option`s: both are `none` exactly
    when a reference name has an unmodelled rune), provided the captures beyond the rule's capture count
    are empty; unconditionally the formatter is the specification on the first `n` captures
    (`glob_format_eq_spec_take`); the hypothesis cannot be dropped (`captures_beyond_count_matter`);
    `glob_format_holds` proves the statement `glob_format_statement`, false before the repair a7bcc3e;
  * `format_total`: `Format` never leaves the modelled `Sprintf` fragment;
  * `regex_expand_eq_spec`: `regexp.Expand` = specification up to the two things the specification leaves
    out on purpose, group 0 and named groups (`dollar_zero_is_outside`, `named_group_is_outside`);
  * `glob_regex_agree`: a glob rule and its regex translation expand every template identically;
  * `lookupGlob_expands`, `glob_lookup_expands`: the same on the level of the mapper's glob lookup.

History: the five repairs of `NewTemplateFormatter` / the FSM found with this property, each recorded by
a `decide`d theorem showing formatter = specification = the expected bytes:
  * adjacent references (4d631d3): the name class of the formatter's reference regex contained `$`, so
    `$1$2` was one unknown name — `adjacent_refs_expand`;
  * a literal `%` in a template with a reference (b74fba2): the template itself was the `Sprintf` format;
    `%` is now escaped — `percent_literal_repaired`;
  * a reference text that is a prefix of another one (b74fba2): the references were substituted one
    `strings.ReplaceAll` at a time, `$1` also hit the head of `$11`; now one pass — `ref_prefix_repaired`;
  * a name component that is literally `*` was not captured (0275669; that is the captures, not the
    expansion: SE/Props/C04.lean and C12.lean, `star_component_captured`);
  * the reference syntax (a7bcc3e): the formatter had its own regex `\$\{?([a-zA-Z0-9_]+)\}?`, which
    differs from `regexp.Expand` in the corners `$$`, `$$1`, `${1`, `$1}`, `$01` and, against the regex
    side, `$1é`; it now uses `regexp.Expand`'s syntax — `reference_syntax_repaired`,
    `unmodelled_is_flagged`.
-/
namespace SE.Props.C11
open SE
variable {V : Type}

/-! ### glob side -/

/-- **C11, glob side, unconditionally**: for every template, capture count `n` and capture list, `Format`
    gives the documented expansion with the first `n` captures (in the real code the captures array has
    one slot per name component, of which a rule with `n` wildcards fills the first `n`). -/
theorem glob_format_eq_spec_take (tmpl : Bytes) (n : Nat) (caps : List Bytes) :
    (compileTemplate tmpl n).format caps = expandSpec (caps.take n) tmpl.length tmpl :=
  (compileTemplate_format tmpl n caps _ (take_getD n caps)).1

/-- **C11, glob side**: for every template `tmpl`, every capture count `n` and all captures `caps` that
    are empty beyond position `n`, the formatter's result is the documented expansion — as `Option`s:
    both sides are `none` exactly when a reference name contains an unmodelled rune. The hypothesis is
    the weakest one that does not look at the template: `compileTemplate` drops references `$k` with
    `k > n`, the specification reads `caps.getD (k-1) []` (`captures_beyond_count_matter`). It holds when
    `caps.length ≤ n` (`glob_format_eq_spec_le`), in particular for the captures of a glob match
    (`glob_lookup_expands`), and for Go's captures array, whose slots beyond the `n`-th stay `""`. -/
theorem glob_format_eq_spec (tmpl : Bytes) (n : Nat) (caps : List Bytes)
    (hcaps : ∀ i, n ≤ i → caps.getD i [] = []) :
    (compileTemplate tmpl n).format caps = expandSpec caps tmpl.length tmpl := by
  refine (compileTemplate_format tmpl n caps caps fun i => ?_).1
  by_cases h : i < n
  · rw [if_pos h]
  · rw [if_neg h, hcaps i (Nat.le_of_not_lt h)]

theorem glob_format_eq_spec_le (tmpl : Bytes) (n : Nat) (caps : List Bytes) (hn : caps.length ≤ n) :
    (compileTemplate tmpl n).format caps = expandSpec caps tmpl.length tmpl := by
  apply glob_format_eq_spec
  intro i hi
  rw [List.getD_eq_getElem?_getD, List.getElem?_eq_none (by omega)]
  rfl

/-- one capture per wildcard -/
theorem glob_format_eq_spec_eq (tmpl : Bytes) (n : Nat) (caps : List Bytes) (hn : caps.length = n) :
    (compileTemplate tmpl n).format caps = expandSpec caps tmpl.length tmpl :=
  glob_format_eq_spec_le tmpl n caps (by omega)

/-- The hypothesis of `glob_format_eq_spec` is needed: a rule compiled for one capture that is handed two
    ignores the second, `$2` ↦ `` where the specification (which does not know `n`) says `b`. With the
    first `n` captures (`glob_format_eq_spec_take`) both say ``. -/
theorem captures_beyond_count_matter :
    (compileTemplate [36, 50] 1).format [[97], [98]] = some [] ∧
    expandSpec [[97], [98]] 2 [36, 50] = some [98] ∧
    expandSpec ([[97], [98]].take 1) 2 [36, 50] = some [] := by decide +kernel

/-- The full-strength claim: for a glob rule with `caps.length` wildcards, the formatter's output is the
    documented expansion. (False before the repair a7bcc3e.) -/
def glob_format_statement : Prop :=
  ∀ (tmpl : Bytes) (caps : List Bytes),
    (compileTemplate tmpl caps.length).format caps = expandSpec caps tmpl.length tmpl

/-- … and it holds. -/
theorem glob_format_holds : glob_format_statement :=
  fun tmpl caps => glob_format_eq_spec_eq tmpl caps.length caps rfl

/-- **`Format` is total on modelled templates.** For every template, capture count and capture list the
    result is `none` only when the template is flagged `unmodelled` (a reference name with a rune outside
    `nameRune`'s fragment): the format string consists of `%%`, `%s` and non-`%` bytes only, the modelled
    fragment of `fmt.Sprintf` is never left. -/
theorem format_total (tmpl : Bytes) (n : Nat) (caps : List Bytes) :
    ((compileTemplate tmpl n).format caps).isSome = true ↔ (compileTemplate tmpl n).unmodelled = false := by
  obtain ⟨hf, hu⟩ := compileTemplate_format tmpl n caps _ (take_getD n caps)
  rw [hf, Option.isSome_iff_ne_none, ← Bool.not_eq_true, hu]

/-- the flag is the specification's `none` (for any captures) -/
theorem unmodelled_iff_spec_none (tmpl : Bytes) (n : Nat) (caps : List Bytes) :
    (compileTemplate tmpl n).unmodelled = true ↔ expandSpec (caps.take n) tmpl.length tmpl = none :=
  (compileTemplate_format tmpl n caps _ (take_getD n caps)).2

/-- A template without `$` is returned verbatim, whatever else it contains (`%` …) and whatever the
    captures are, and that is the documented expansion. -/
theorem no_dollar_identity (tmpl : Bytes) (n : Nat) (caps : List Bytes) (h : cDollar ∉ tmpl) :
    (compileTemplate tmpl n).format caps = some tmpl ∧ expandSpec caps tmpl.length tmpl = some tmpl :=
  ⟨by rw [glob_format_eq_spec_take]; exact expandSpec_no_dollar _ _ _ h, expandSpec_no_dollar _ _ _ h⟩

/-! ### the repairs, on the former counterexamples -/

/-- Repair 4d631d3 (`template_dollar_in_reference`): `$1$2` with captures `a`, `b` gives `ab`, the documented
    expansion (before: `1$2` was read as one non-numeric name, result ``). -/
theorem adjacent_refs_expand :
    (compileTemplate [36, 49, 36, 50] 2).format [[97], [98]] = some [97, 98] ∧
    expandSpec [[97], [98]] 4 [36, 49, 36, 50] = some [97, 98] := by decide +kernel

/-- Repair b74fba2 (`template_has_percent`): `100%-$1` and `50%s-$1` with one capture `foo` give
    `100%-foo` and `50%s-foo`, the documented expansion (before: the template with `%s` put in was the
    `Sprintf` format; real outputs `100%s%!(EXTRA string=foo)` and `50foo-%!s(MISSING)`). -/
theorem percent_literal_repaired :
    ((compileTemplate [49, 48, 48, 37, 45, 36, 49] 1).format [[102, 111, 111]]
        = some [49, 48, 48, 37, 45, 102, 111, 111] ∧
      expandSpec [[102, 111, 111]] 7 [49, 48, 48, 37, 45, 36, 49] = some [49, 48, 48, 37, 45, 102, 111, 111]) ∧
    ((compileTemplate [53, 48, 37, 115, 45, 36, 49] 1).format [[102, 111, 111]]
        = some [53, 48, 37, 115, 45, 102, 111, 111] ∧
      expandSpec [[102, 111, 111]] 7 [53, 48, 37, 115, 45, 36, 49] = some [53, 48, 37, 115, 45, 102, 111, 111]) := by
  decide +kernel

/-- Repair b74fba2 (`template_ref_prefix_of_ref`): `$1-$11`. With one capture `foo` the result is `foo-`
    (`$11` is out of range; before, `ReplaceAll("$1", "%s")` also hit the head of `$11`:
    `foo-%!s(MISSING)1`); with eleven captures `c1` … `c11` it is `c1-c11`. Both as documented. -/
theorem ref_prefix_repaired :
    ((compileTemplate [36, 49, 45, 36, 49, 49] 1).format [[102, 111, 111]] = some [102, 111, 111, 45] ∧
      expandSpec [[102, 111, 111]] 6 [36, 49, 45, 36, 49, 49] = some [102, 111, 111, 45]) ∧
    ((compileTemplate [36, 49, 45, 36, 49, 49] 11).format
        [[99, 49], [99, 50], [99, 51], [99, 52], [99, 53], [99, 54], [99, 55], [99, 56], [99, 57],
         [99, 49, 48], [99, 49, 49]] = some [99, 49, 45, 99, 49, 49] ∧
      expandSpec
        [[99, 49], [99, 50], [99, 51], [99, 52], [99, 53], [99, 54], [99, 55], [99, 56], [99, 57],
         [99, 49, 48], [99, 49, 49]] 6 [36, 49, 45, 36, 49, 49] = some [99, 49, 45, 99, 49, 49]) := by
  decide +kernel

/-- Repair a7bcc3e (`template_dollar_escape`, `template_brace_mismatch`, `template_leading_zero_ref`,
    `template_unicode_letter_after_ref`): the six corners in which the formatter's own reference syntax
    differed from `regexp.Expand`'s, with one capture `f`. Formatter, specification and (with the regex
    match `[whole, f]`) `regexp.Expand` now all give
    `$$` ↦ `$` (was `$$`), `$$1` ↦ `$1` (was `$f`), `${1` ↦ `${1` (was `f`), `$1}` ↦ `f}` (was `f`),
    `$01` ↦ `` (was `f`), `$1é` ↦ `` (the name is `1é`; the formatter gave `fé`). -/
theorem reference_syntax_repaired :
    let m : RxMatch := [([], some [119]), ([], some [102])]
    ((compileTemplate [36, 36] 1).format [[102]] = some [36] ∧
      expandSpec [[102]] 2 [36, 36] = some [36] ∧ rxExpand m 2 [36, 36] = some [36]) ∧
    ((compileTemplate [36, 36, 49] 1).format [[102]] = some [36, 49] ∧
      expandSpec [[102]] 3 [36, 36, 49] = some [36, 49] ∧ rxExpand m 3 [36, 36, 49] = some [36, 49]) ∧
    ((compileTemplate [36, 123, 49] 1).format [[102]] = some [36, 123, 49] ∧
      expandSpec [[102]] 3 [36, 123, 49] = some [36, 123, 49] ∧ rxExpand m 3 [36, 123, 49] = some [36, 123, 49]) ∧
    ((compileTemplate [36, 49, 125] 1).format [[102]] = some [102, 125] ∧
      expandSpec [[102]] 3 [36, 49, 125] = some [102, 125] ∧ rxExpand m 3 [36, 49, 125] = some [102, 125]) ∧
    ((compileTemplate [36, 48, 49] 1).format [[102]] = some [] ∧
      expandSpec [[102]] 3 [36, 48, 49] = some [] ∧ rxExpand m 3 [36, 48, 49] = some []) ∧
    ((compileTemplate [36, 49, 0xC3, 0xA9] 1).format [[102]] = some [] ∧
      expandSpec [[102]] 4 [36, 49, 0xC3, 0xA9] = some [] ∧ rxExpand m 4 [36, 49, 0xC3, 0xA9] = some []) := by
  decide +kernel

/-- Outside the modelled Unicode fragment nothing is claimed, by anybody: `$1α` (`α` = CE B1, lead byte
    0xCE) is flagged by the formatter model, and formatter, specification and `regexp.Expand` answer
    `none`. An invalid byte (0xFF) ends the name like any non-letter: `$1\xff` ↦ `f\xff`. -/
theorem unmodelled_is_flagged :
    (compileTemplate [36, 49, 0xCE, 0xB1] 1).unmodelled = true ∧
    (compileTemplate [36, 49, 0xCE, 0xB1] 1).format [[102]] = none ∧
    expandSpec [[102]] 4 [36, 49, 0xCE, 0xB1] = none ∧
    rxExpand [([], some [119]), ([], some [102])] 4 [36, 49, 0xCE, 0xB1] = none ∧
    (compileTemplate [36, 49, 0xFF] 1).format [[102]] = some [102, 0xFF] ∧
    expandSpec [[102]] 3 [36, 49, 0xFF] = some [102, 0xFF] := by decide +kernel

/-! ### regex side -/

/-- **`regexp.Expand` = specification**, for every match `m` and every template `t`, provided every
    reference name the scan meets (`refNames`, rune-aware) is "good" for `m`: a numeric name is not `0`,
    a non-numeric name is not the name of a participating group of `m` — group 0 and named groups are
    what the specification leaves out. Captures are numbered from group 1; a group that did not
    participate counts as empty. Equality of `Option`s: `none` on both sides exactly when a name has an
    unmodelled rune. -/
theorem regex_expand_eq_spec (m : RxMatch) (t : Bytes)
    (h : ∀ name ∈ refNames t.length t, refGood m name) :
    rxExpand m t.length t = expandSpec (capsOf m) t.length t :=
  rxExpand_eq_expandSpec m t.length t h

/-- The usual case, and the one the regex translation of a glob rule produces: all groups of the regex
    are unnamed; the template does not mention `$0`. -/
theorem regex_expand_eq_spec_unnamed (m : RxMatch) (t : Bytes)
    (hun : ∀ g ∈ m, g.1 = [])
    (h0 : ∀ name ∈ refNames t.length t, rxNum name ≠ some 0) :
    rxExpand m t.length t = expandSpec (capsOf m) t.length t :=
  regex_expand_eq_spec m t (refGood_of_unnamed m _ _ hun h0)

/-- Group 0 is outside C11 (captures are numbered from 1): for `$0` the regex side puts the whole match,
    specification and glob formatter nothing (the formatter reads "capture 0" as out of range). -/
theorem dollar_zero_is_outside :
    rxExpand [([], some [119]), ([], some [102])] 2 [36, 48] = some [119] ∧
    expandSpec [[102]] 2 [36, 48] = some [] ∧
    (compileTemplate [36, 48] 1).format [[102]] = some [] ∧
    refNames 2 [36, 48] = [[48]] ∧ rxNum [48] = some 0 := by decide +kernel

/-- Named groups are outside C11 (a glob rule has none): `$foo` with a group named `foo`. -/
theorem named_group_is_outside :
    rxExpand [([], some [119]), ([102, 111, 111], some [120])] 4 [36, 102, 111, 111] = some [120] ∧
    expandSpec [[120]] 4 [36, 102, 111, 111] = some [] ∧
    refNames 4 [36, 102, 111, 111] = [[102, 111, 111]] := by decide +kernel

/-- a template without `$` is copied by `regexp.Expand` whatever bytes it contains, and that is the
    documented expansion -/
theorem regex_no_dollar_identity (m : RxMatch) (t : Bytes) (caps : List Bytes) (h : cDollar ∉ t) :
    rxExpand m t.length t = some t ∧ expandSpec caps t.length t = some t :=
  ⟨rxExpand_no_dollar m _ _ h, expandSpec_no_dollar caps _ _ h⟩

/-! ### glob and regex rules agree -/

/-- **A glob rule and its regex translation expand every template identically.** `m` is the match of
    the translated regex: unnamed groups, group 0 the whole match, groups 1.. the captures (`capsOf m`;
    a group that did not participate — impossible for the translation's `([^.]*)` groups — counts as
    empty), none beyond the glob rule's capture count `n`; the template does not mention `$0`
    (`dollar_zero_is_outside`). Equality of `Option`s. -/
theorem glob_regex_agree (tmpl : Bytes) (m : RxMatch) (n : Nat)
    (hun : ∀ g ∈ m, g.1 = [])
    (hcaps : ∀ i, n ≤ i → (capsOf m).getD i [] = [])
    (h0 : ∀ name ∈ refNames tmpl.length tmpl, rxNum name ≠ some 0) :
    (compileTemplate tmpl n).format (capsOf m) = rxExpand m tmpl.length tmpl := by
  rw [glob_format_eq_spec tmpl n (capsOf m) hcaps, regex_expand_eq_spec_unnamed m tmpl hun h0]

/-- … in the shape the translation guarantees: a glob pattern with `n` wildcards becomes a regex with
    `n` groups, `m` has `n + 1` entries (`≤` suffices). -/
theorem glob_regex_agree_len (tmpl : Bytes) (m : RxMatch) (n : Nat)
    (hun : ∀ g ∈ m, g.1 = [])
    (hlen : m.length ≤ n + 1)
    (h0 : ∀ name ∈ refNames tmpl.length tmpl, rxNum name ≠ some 0) :
    (compileTemplate tmpl n).format (capsOf m) = rxExpand m tmpl.length tmpl := by
  apply glob_regex_agree tmpl m n hun _ h0
  intro i hi
  have := capsOf_length m
  rw [List.getD_eq_getElem?_getD, List.getElem?_eq_none (by omega)]
  rfl

/-- both sides are the specification -/
theorem glob_regex_agree_spec (tmpl : Bytes) (m : RxMatch) (n : Nat)
    (hun : ∀ g ∈ m, g.1 = [])
    (hlen : m.length ≤ n + 1)
    (h0 : ∀ name ∈ refNames tmpl.length tmpl, rxNum name ≠ some 0) :
    (compileTemplate tmpl n).format (capsOf m) = expandSpec (capsOf m) tmpl.length tmpl ∧
    rxExpand m tmpl.length tmpl = expandSpec (capsOf m) tmpl.length tmpl :=
  have h := regex_expand_eq_spec_unnamed m tmpl hun h0
  ⟨(glob_regex_agree_len tmpl m n hun hlen h0).trans h, h⟩

/-! ### on the level of the mapper's glob lookup -/

/-- the captures of a pattern are at most its wildcards -/
theorem capturesOf_length_le : ∀ (pat name : Pat), (capturesOf pat name).length ≤ countStars pat := by
  intro pat
  induction pat with
  | nil => intro name; exact Nat.le_refl 0
  | cons p ps ih =>
    intro name
    cases name with
    | nil => exact Nat.zero_le _
    | cons c cs =>
      unfold countStars capturesOf
      rw [List.filter_cons]
      cases p == starB with
      | true => exact Nat.succ_le_succ (ih cs)
      | false => exact ih cs

/-- **`lookupGlob` expands as documented** (either mode, every configuration): the name and the label
    values of the mapping returned are the documented expansions of the winning rule's templates with
    the first `captureCount` captures the FSM reports. -/
theorem lookupGlob_expands (cfg : Config V) (name : Bytes) (ty : Nat) (m : Mapped)
    (hm : lookupGlob cfg name ty = some m) :
    ∃ f i r, globLookup (toGRules cfg) cfg.orderingDisabled (splitOn 46 name) ty = some f ∧
      (globRules cfg)[f.rule]? = some (i, r) ∧
      m = { ruleIdx := i,
            name := expandSpec (f.caps.take r.captureCount) r.name.length r.name,
            labels := r.labels.map fun (k, t) => (k, expandSpec (f.caps.take r.captureCount) t.length t) } := by
  rw [lookupGlob_eq, Option.map_eq_some_iff] at hm
  obtain ⟨⟨⟨r, i⟩, g⟩, hy, rfl⟩ := hm
  refine ⟨_, i, r, by rw [globLookup_eq cfg _ (splitOn_ne_nil _ _), hy]; rfl, (globWinner_some hy).1, ?_⟩
  simp only [glob_format_eq_spec_take]

/-- **C11 for glob rules, end to end** (ordered mode): the mapping returned for a name is the first
    matching glob rule `r`, and its name and label values are the documented expansions of `r`'s
    templates with the name components under the `*`s of `r`'s pattern — for every configuration whose
    rules have at least as many capture slots as wildcards (`load` sets `captureCount := countStars pat`). -/
theorem glob_lookup_expands (cfg : Config V) (hord : cfg.orderingDisabled = false)
    (hcc : ∀ r ∈ cfg.rules, countStars r.pat ≤ r.captureCount)
    (name : Bytes) (ty : Nat) (m : Mapped) (hm : lookupGlob cfg name ty = some m) :
    ∃ i r, firstGlob cfg name ty = some i ∧ cfg.rules[i]? = some r ∧
      ruleMatchesGlob r (splitOn 46 name) ty = true ∧
      m = { ruleIdx := i,
            name := expandSpec (capturesOf r.pat (splitOn 46 name)) r.name.length r.name,
            labels := r.labels.map fun (k, t) =>
              (k, expandSpec (capturesOf r.pat (splitOn 46 name)) t.length t) } := by
  obtain ⟨i, r, h1, h2, h3, h4⟩ := SE.Props.C04.glob_captures cfg hord name ty m hm
  refine ⟨i, r, h1, h2, h3, ?_⟩
  have hle : (capturesOf r.pat (splitOn 46 name)).length ≤ r.captureCount :=
    Nat.le_trans (capturesOf_length_le _ _) (hcc r (List.mem_of_getElem? h2))
  rw [h4]
  simp only [glob_format_eq_spec_le _ _ _ hle]

/-! ### non-vacuity: what the two sides are on real templates -/

-- "x_$1$2.${3}$1" with a, b, c ↦ "x_ab.ca": several, adjacent, braced and repeated references
example : (compileTemplate [120, 95, 36, 49, 36, 50, 46, 36, 123, 51, 125, 36, 49] 3).format [[97], [98], [99]]
    = some [120, 95, 97, 98, 46, 99, 97] ∧
    expandSpec [[97], [98], [99]] 13 [120, 95, 36, 49, 36, 50, 46, 36, 123, 51, 125, 36, 49]
    = some [120, 95, 97, 98, 46, 99, 97] := by decide +kernel
-- "x_$1$2_${3}$1" ↦ "x_aca": the second reference is `$2_` (longest name), which names no capture
example : (compileTemplate [120, 95, 36, 49, 36, 50, 95, 36, 123, 51, 125, 36, 49] 3).format [[97], [98], [99]]
    = some [120, 95, 97, 99, 97] ∧
    expandSpec [[97], [98], [99]] 13 [120, 95, 36, 49, 36, 50, 95, 36, 123, 51, 125, 36, 49]
    = some [120, 95, 97, 99, 97] := by decide +kernel
-- "$1-$5-$foo-${ab}-$0|" with two captures a, b ↦ "a----|": out-of-range, named and `$0` references
-- expand to nothing on both sides
example : (compileTemplate [36, 49, 45, 36, 53, 45, 36, 102, 111, 111, 45, 36, 123, 97, 98, 125, 45, 36, 48, 124] 2).format
      [[97], [98]] = some [97, 45, 45, 45, 45, 124] ∧
    expandSpec [[97], [98]] 20 [36, 49, 45, 36, 53, 45, 36, 102, 111, 111, 45, 36, 123, 97, 98, 125, 45, 36, 48, 124]
    = some [97, 45, 45, 45, 45, 124] := by decide +kernel
-- "%d$2%%$1" with a, b ↦ "%db%%a" (nothing in the literals is interpreted by `Sprintf`)
example : (compileTemplate [37, 100, 36, 50, 37, 37, 36, 49] 2).format [[97], [98]] = some [37, 100, 98, 37, 37, 97] ∧
    expandSpec [[97], [98]] 8 [37, 100, 36, 50, 37, 37, 36, 49] = some [37, 100, 98, 37, 37, 97] := by decide +kernel
-- a template whose references are all unusable still goes through `Sprintf`, which un-escapes `%%`:
-- "100%$5" and "100%$foo" with two captures ↦ "100%"; the reference-free "100%" is returned as it is
example : (compileTemplate [49, 48, 48, 37, 36, 53] 2).format [[97], [98]] = some [49, 48, 48, 37] ∧
    expandSpec [[97], [98]] 6 [49, 48, 48, 37, 36, 53] = some [49, 48, 48, 37] ∧
    (compileTemplate [49, 48, 48, 37, 36, 102, 111, 111] 2).format [[97], [98]] = some [49, 48, 48, 37] ∧
    expandSpec [[97], [98]] 8 [49, 48, 48, 37, 36, 102, 111, 111] = some [49, 48, 48, 37] ∧
    (compileTemplate [49, 48, 48, 37] 2).format [[97], [98]] = some [49, 48, 48, 37] ∧
    (compileTemplate [49, 48, 48, 37] 2).literal = true := by decide +kernel
-- a lone `$`, `$-`, `${}` are copied: "a$-${}$" ↦ itself
example : (compileTemplate [97, 36, 45, 36, 123, 125, 36] 1).format [[102]] = some [97, 36, 45, 36, 123, 125, 36] ∧
    expandSpec [[102]] 7 [97, 36, 45, 36, 123, 125, 36] = some [97, 36, 45, 36, 123, 125, 36] := by decide +kernel
-- non-ASCII text: "é$1-x" ↦ "éf-x", "${1}é" ↦ "fé" (braces end the name), all three sides
example : (compileTemplate [0xC3, 0xA9, 36, 49, 45, 120] 1).format [[102]] = some [0xC3, 0xA9, 102, 45, 120] ∧
    expandSpec [[102]] 6 [0xC3, 0xA9, 36, 49, 45, 120] = some [0xC3, 0xA9, 102, 45, 120] ∧
    rxExpand [([], some [119]), ([], some [102])] 6 [0xC3, 0xA9, 36, 49, 45, 120]
      = some [0xC3, 0xA9, 102, 45, 120] ∧
    (compileTemplate [36, 123, 49, 125, 0xC3, 0xA9] 1).format [[102]] = some [102, 0xC3, 0xA9] ∧
    expandSpec [[102]] 6 [36, 123, 49, 125, 0xC3, 0xA9] = some [102, 0xC3, 0xA9] ∧
    rxExpand [([], some [119]), ([], some [102])] 6 [36, 123, 49, 125, 0xC3, 0xA9]
      = some [102, 0xC3, 0xA9] := by decide +kernel
-- regex side: "$1-${2}!" with group 2 not participating ↦ "x-!"; the names the scan meets
example : rxExpand [([], some [119]), ([], some [120]), ([], none)] 8 [36, 49, 45, 36, 123, 50, 125, 33]
    = some [120, 45, 33] ∧
    expandSpec (capsOf [([], some [119]), ([], some [120]), ([], none)]) 8 [36, 49, 45, 36, 123, 50, 125, 33]
    = some [120, 45, 33] := by decide +kernel
example : refNames 9 [36, 49, 45, 36, 123, 49, 50, 125, 36] = [[49], [49, 50]] ∧          -- "$1-${12}$"
          refNames 4 [36, 49, 0xC3, 0xA9] = [[49, 0xC3, 0xA9]] := by decide +kernel              -- "$1é": the name is `1é`
-- a non-ASCII *group name* is looked up byte-wise: "${é}" with a group named `é`
example : rxExpand [([], some [119]), ([0xC3, 0xA9], some [102])] 5 [36, 123, 0xC3, 0xA9, 125] = some [102] := by
  decide +kernel
-- the hypotheses of `glob_regex_agree_len` are satisfiable: a match with two unnamed groups, "$1.$2-$3"
example : let m : RxMatch := [([], some [97, 46, 98]), ([], some [97]), ([], some [98])]
    (∀ g ∈ m, g.1 = []) ∧ m.length ≤ 2 + 1 ∧
    (∀ name ∈ refNames 8 [36, 49, 46, 36, 50, 45, 36, 51], rxNum name ≠ some 0) ∧
    (compileTemplate [36, 49, 46, 36, 50, 45, 36, 51] 2).format (capsOf m) = some [97, 46, 98, 45] ∧
    rxExpand m 8 [36, 49, 46, 36, 50, 45, 36, 51] = some [97, 46, 98, 45] := by decide +kernel

end SE.Props.C11
