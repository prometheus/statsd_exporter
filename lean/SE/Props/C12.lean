import SE.Proofs.GlobBridge
/-
C12 — Unordered glob mode (`glob_disable_ordering: true`): complete, and the most specific rule wins.

`lookupGlob` / `globLookup` model `FSM.GetMapping`; `needBT` models `TestIfNeedBacktracking`, `ambiguous`
models `FSM.HasAmbiguousTransitions`, `backtracking = needBT || ambiguous` is the `BacktrackingNeeded`
flag as mapper.go computes it after the repair (SE/Model/Glob.lean); `mostSpecificGlob`, `mostSpecific`,
`moreSpecific` are the specification (SE/Spec/Mapping.lean). All theorems quantify over all
configurations, names and types.

The defect and its repair. Before the repair `BacktrackingNeeded` was the heuristic
`TestIfNeedBacktracking` alone. The heuristic answers "no" for rule sets in which a literal branch of the
trie can dead-end (`a.*.*` + `a.b.c`: `a.b.d` follows the literal `b` and is never matched;
`a.b.*` + `*.*.c` + `*.*.*`: `a.x.c`; `a` + `a.b.c` + `*.b`: `a.b`), so completeness and "most specific
wins" were FALSE without the hypothesis `needBT … = true`. The repair ORs in
`HasAmbiguousTransitions`: some state has the `*` transition together with a literal transition.

What is proved, without any hypothesis on the heuristic:
  * `unordered_eq_mostSpecific`, `unordered_complete`, `unordered_lookup_eq_mostSpecific`: for every
    configuration with `orderingDisabled = true`, every name and every type, the lookup is complete and
    returns the spec's most specific matching rule;
  * the reason (`deterministic_search`): in a trie that is not ambiguous at most one child can be entered
    at every node, so the search without backtracking reaches the same first final state as the search
    with backtracking; `globLookup_unordered_eq`: whatever the flag is, `FSM.GetMapping` returns the first
    final state of the backtracking search;
  * the full-strength statements (`…_statement`), false before the repair, are proved (`…_holds`);
  * the former counterexamples record the repair: the heuristic alone still says "no
    backtracking" (`cex_needBT_false`), the search without backtracking still loses the witnesses
    (`heuristic_alone_insufficient`), `ambiguous` is `true` and the witnesses are now mapped to the most
    specific rule (`cex_repaired`, `cex₂_repaired`, `cex₃_repaired`).
Soundness holds in every mode; the `…_partial` theorems carry the hypothesis `needBT … = true` and are all that
held before the repair.

Captures (`unordered_captures`): for every name — a component that is literally `*` included — the captures
`FSM.GetMapping` returns are `capturesOf` of the pattern that owns the final state. Before repair 0275669 a `*`
component was looked up among the literal transitions, reached the `*` child there and was not recorded (finding
`literal_star_component`); now it takes the wildcard branch and is captured (`star_component_captured`,
`star_component_captured_cfg`), and the backtracking search no longer enters the `*` child twice for such a field
(`star_field_single_branch`).

`unordered_complete_statement` carries the premise `name ≠ []`: a name with zero fields is never looked up
(`splitOn` never returns `[]`), and `premise_name_ne_needed` shows the premise cannot be dropped on the level of field lists.
-/
namespace SE.Props.C12
open SE
variable {V : Type}

/-- **Soundness (any mode, backtracking or not)**: whatever `lookupGlob` returns is a glob rule of the
    configuration that matches the name component-wise and passes the type filter. -/
theorem unordered_sound (cfg : Config V) (name : Bytes) (ty : Nat) (m : Mapped)
    (h : lookupGlob cfg name ty = some m) :
    ∃ r, cfg.rules[m.ruleIdx]? = some r ∧ ruleMatchesGlob r (splitOn 46 name) ty = true := by
  rw [lookupGlob_eq, Option.map_eq_some_iff] at h
  obtain ⟨⟨⟨r, i⟩, g⟩, hy, rfl⟩ := h
  exact ⟨r, (globWinner_some hy).2⟩

/-- The captures in unordered mode (in fact in either mode), for every name: the captures
    `FSM.GetMapping` returns are those of the pattern that owns the final state. -/
theorem unordered_captures (cfg : Config V) (name : Bytes) (ty : Nat) (f : Found)
    (hf : globLookup (toGRules cfg) cfg.orderingDisabled (splitOn 46 name) ty = some f) :
    ∃ i r, (globRules cfg)[f.rule]? = some (i, r) ∧ cfg.rules[i]? = some r ∧
      ruleMatchesGlob r (splitOn 46 name) ty = true ∧ f.caps = capturesOf r.pat (splitOn 46 name) := by
  rw [globLookup_eq cfg _ (splitOn_ne_nil _ _), Option.map_eq_some_iff] at hf
  obtain ⟨⟨⟨r, i⟩, g⟩, hy, rfl⟩ := hf
  have hk := globWinner_some hy
  exact ⟨i, r, hk.1, hk.2.1, hk.2.2, rfl⟩

/-- The first final state the search reaches (backtracking on) is owned by a matching pattern that
    no matching pattern of the type root beats in the C12 order: literal-first DFS = most specific first. -/
theorem trie_dfs_head_mostSpecific (rs : TRules) (name : Pat) (f0 : Found)
    (h : pick false (dfs rs true [] [] name) = some f0) :
    ∃ pat, globMatches pat name = true ∧ result rs pat = some f0.rule ∧
      ∀ r ∈ rs, globMatches r.2 name = true → moreSpecific r.2 pat = false := by
  rw [pick_unordered] at h
  obtain ⟨pat, h1, h2, _, h4⟩ := dfs_head_min h
  exact ⟨pat, h1, h2, h4⟩

/-! ### The repair: a trie that is not ambiguous is searched deterministically -/

/-- The node invariant of a non-ambiguous trie: a node that can be left through `*` cannot be left
    through a literal. -/
theorem not_ambiguous_node (rs : TRules) (hna : ambiguousAt rs = false) (p : Pat) (f : Bytes)
    (left left' : Nat) (h1 : okChild rs p f left = true) (h2 : okChild rs p starB left' = true) : f = starB :=
  okChild_star_unique hna h1 h2

/-- **Key lemma, general form**: in a non-ambiguous trie the search without backtracking reaches the same
    first final state — rule and captures — as the search with backtracking, from every node `p`, with
    every capture prefix, for every list of remaining fields (fields that are literally `*` included:
    since repair 0275669 both searches take the single wildcard branch for such a field). -/
theorem deterministic_search_from (rs : TRules) (hna : ambiguousAt rs = false)
    (p : Pat) (caps : List Bytes) (fields : List Bytes) :
    (dfs rs false p caps fields).head? = (dfs rs true p caps fields).head? :=
  dfs_head_deterministic rs hna fields p caps

/-- **Key lemma**: when the trie of a type root is not ambiguous, the search without backtracking finds
    the same first result as the search with backtracking. -/
theorem deterministic_search (rs : TRules) (hna : ambiguousAt rs = false) (name : Pat) :
    pick false (dfs rs false [] [] name) = pick false (dfs rs true [] [] name) :=
  pick_dfs_bt_irrelevant rs hna false name

/-- `BacktrackingNeeded = false` after the repair means that *every* type root is non-ambiguous
    (a type that no rule names sees the untyped rules only, a subset of every root). -/
theorem no_backtracking_all_roots (rules : List GRule) (h : backtracking rules true = false) (ty : Nat) :
    ambiguousAt (rulesFor rules ty) = false := by
  simp only [backtracking, Bool.or_eq_false_iff] at h
  exact ambiguousAt_rulesFor_of_not_ambiguous h.2 ty

/-- **`FSM.GetMapping` in unordered mode after the repair**: whatever the heuristic answers, for every
    rule list, name and type, the lookup returns the first final state of the backtracking search. -/
theorem globLookup_unordered_eq (rules : List GRule) (name : Pat) (ty : Nat) :
    globLookup rules true name ty = pick false (dfs (rulesFor rules ty) true [] [] name) :=
  globLookup_unordered rules name ty

/-! ### Main results -/

/-- **Most specific wins**: in unordered mode the glob lookup returns exactly the spec's most specific
    matching glob rule (the first written among rules with an identical pattern) — for every
    configuration, every name and every type. -/
theorem unordered_eq_mostSpecific (cfg : Config V) (hod : cfg.orderingDisabled = true)
    (name : Bytes) (ty : Nat) :
    (lookupGlob cfg name ty).map (·.ruleIdx) = mostSpecificGlob cfg name ty := by
  rw [lookupGlob_eq, globWinner_unordered hod, mostSpecificGlob_eq_fold, Option.map_map]
  rfl

/-- `mostSpecificGlob` returns a matching glob rule that no matching glob rule beats. -/
theorem mostSpecificGlob_spec (cfg : Config V) (name : Bytes) (ty i : Nat)
    (h : mostSpecificGlob cfg name ty = some i) :
    ∃ r, cfg.rules[i]? = some r ∧ ruleMatchesGlob r (splitOn 46 name) ty = true ∧
      ∀ r' ∈ cfg.rules, ruleMatchesGlob r' (splitOn 46 name) ty = true → moreSpecific r'.pat r.pat = false := by
  rw [mostSpecificGlob_cands, Option.map_eq_some_iff] at h
  obtain ⟨⟨r, j⟩, hf, rfl⟩ := h
  obtain ⟨hmem, hmin⟩ := foldl_msStep_min hf
  rw [mem_specCands] at hmem
  refine ⟨r, hmem.1, hmem.2, fun r' hr' hm' => ?_⟩
  obtain ⟨k, hk⟩ := List.getElem?_of_mem hr'
  exact hmin (r', k) (mem_specCands.mpr ⟨hk, hm'⟩)

/-- `mostSpecificGlob` is `none` exactly when no glob rule matches. -/
theorem mostSpecificGlob_none (cfg : Config V) (name : Bytes) (ty : Nat) :
    mostSpecificGlob cfg name ty = none ↔ ∀ r ∈ cfg.rules, ruleMatchesGlob r (splitOn 46 name) ty = false := by
  rw [mostSpecificGlob_eq_fold, Option.map_eq_none_iff, foldl_msStep_none_iff, globMatching_eq_nil_iff]

/-- **Completeness**: in unordered mode the glob lookup succeeds iff some glob rule matches the name and
    passes the type filter. -/
theorem unordered_complete (cfg : Config V) (hod : cfg.orderingDisabled = true) (name : Bytes) (ty : Nat) :
    (lookupGlob cfg name ty).isSome = true ↔
      ∃ r ∈ cfg.rules, ruleMatchesGlob r (splitOn 46 name) ty = true :=
  lookupGlob_isSome_iff

/-- **Whole lookup**: in unordered mode, for a configuration whose `doFSM` flag is what the loader
    computes, `lookup` is the spec `mostSpecific` (most specific glob rule, else first matching regex rule). -/
theorem unordered_lookup_eq_mostSpecific (cfg : Config V) (hod : cfg.orderingDisabled = true)
    (hwf : DoFSMConsistent cfg) (rx : Rx) (name : Bytes) (ty : Nat) :
    (lookup cfg rx name ty).map (·.ruleIdx) = mostSpecific cfg rx name ty := by
  rw [lookup_eq_or cfg hwf, Option.map_or, regex_eq_firstRegex, unordered_eq_mostSpecific cfg hod, mostSpecific]
  cases mostSpecificGlob cfg name ty <;> rfl

/-! ### The results under the hypothesis that the heuristic alone answered `true` (all that held before the repair) -/

/-- "Most specific wins" with the repaired flag as the hypothesis: `BacktrackingNeeded = true`, for whichever reason. -/
theorem unordered_eq_mostSpecific_of_backtracking (cfg : Config V) (hod : cfg.orderingDisabled = true)
    (hbt : backtracking (toGRules cfg) true = true) (name : Bytes) (ty : Nat) :
    (lookupGlob cfg name ty).map (·.ruleIdx) = mostSpecificGlob cfg name ty :=
  unordered_eq_mostSpecific cfg hod name ty

/-- **Most specific wins (partial)**: in unordered mode, *if `TestIfNeedBacktracking` answered `true`*,
    the glob lookup returns exactly the spec's most specific matching glob rule (the first written among
    rules with an identical pattern). No hypothesis on the name is needed. -/
theorem unordered_eq_mostSpecific_partial (cfg : Config V) (hod : cfg.orderingDisabled = true)
    (hbt : needBT ((toGRules cfg).map (·.pat)) true = true) (name : Bytes) (ty : Nat) :
    (lookupGlob cfg name ty).map (·.ruleIdx) = mostSpecificGlob cfg name ty :=
  unordered_eq_mostSpecific cfg hod name ty

/-- **Completeness (partial)**: in unordered mode, *if `TestIfNeedBacktracking` answered `true`*, the
    glob lookup succeeds iff some glob rule matches the name and passes the type filter. -/
theorem unordered_complete_partial (cfg : Config V) (hod : cfg.orderingDisabled = true)
    (hbt : needBT ((toGRules cfg).map (·.pat)) true = true) (name : Bytes) (ty : Nat) :
    (lookupGlob cfg name ty).isSome = true ↔
      ∃ r ∈ cfg.rules, ruleMatchesGlob r (splitOn 46 name) ty = true :=
  unordered_complete cfg hod name ty

/-- **Whole lookup (partial)**: in unordered mode with backtracking enabled by the heuristic, for a
    configuration whose `doFSM` flag is what the loader computes, `lookup` is the spec `mostSpecific`
    (most specific glob rule, else first matching regex rule). -/
theorem unordered_lookup_eq_mostSpecific_partial (cfg : Config V) (hod : cfg.orderingDisabled = true)
    (hbt : needBT ((toGRules cfg).map (·.pat)) true = true) (hwf : DoFSMConsistent cfg)
    (rx : Rx) (name : Bytes) (ty : Nat) :
    (lookup cfg rx name ty).map (·.ruleIdx) = mostSpecific cfg rx name ty :=
  unordered_lookup_eq_mostSpecific cfg hod hwf rx name ty

/-! ### The full-strength statements (refuted before the repair) now hold -/

private def a : Bytes := [97]
private def b : Bytes := [98]
private def c : Bytes := [99]
private def d : Bytes := [100]
private def x : Bytes := [120]

/-- completeness of the unordered FSM lookup without the backtracking hypothesis, for every list of rules, every type
    and every name that has at least one field (every name has: `splitOn` never returns `[]`) -/
def unordered_complete_statement : Prop :=
  ∀ (rules : List GRule) (name : Pat) (ty : Nat), name ≠ [] →
    (∃ r ∈ rules, globMatches r.pat name = true ∧ typeOk r.ty ty = true) →
    (globLookup rules true name ty).isSome = true

/-- **Completeness on the level of rule lists**, no hypothesis on the heuristic, every type. -/
theorem unordered_complete_holds : unordered_complete_statement := by
  intro rules name ty hne ⟨r, hr, hm, hty⟩
  rw [globLookup_unordered, pick_unordered_dfs _ _ hne, Option.isSome_map, Option.isSome_iff_ne_none, ne_eq,
    foldl_msStep_none_iff, List.filter_eq_nil_iff]
  intro h
  obtain ⟨i, hi⟩ := List.getElem?_of_mem hr
  exact h (i, r.pat) (mem_rulesFor.mpr ⟨r.ty, hi, hty⟩) hm

/-- the premise `name ≠ []` is needed on this level: the empty pattern matches the name with zero fields, which
    `GetMapping` never sees -/
theorem premise_name_ne_needed :
    globMatches [] [] = true ∧ globLookup [⟨[], none⟩] true [] 0 = none := by decide +kernel

/-- a configuration of glob rules with the given patterns and otherwise trivial fields -/
def mkCfg (pats : List Pat) (orderingDisabled : Bool) : Config Unit :=
  { rules := pats.map fun p =>
      { matchStr := joinWith 46 p, name := [], labels := [], honorLabels := false, observerType := .dflt,
        matchType := .glob, help := [], action := .map, matchMetricType := none, ttl := 0, scale := none,
        buckets := [], hasHistOpts := false, quantiles := [], hasSummaryOpts := false, maxAge := 0,
        ageBuckets := 0, bufCap := 0, pat := p, captureCount := countStars p },
    dObserverType := .dflt, dTtl := 0, dBuckets := [], dQuantiles := [], dMaxAge := 0, dAgeBuckets := 0,
    dBufCap := 0, orderingDisabled := orderingDisabled, doFSM := true }

/-- completeness on the `Config` level, without the backtracking hypothesis -/
def unordered_complete_cfg_statement : Prop :=
  ∀ (cfg : Config Unit) (name : Bytes) (ty : Nat), cfg.orderingDisabled = true →
    (∃ r ∈ cfg.rules, ruleMatchesGlob r (splitOn 46 name) ty = true) →
    (lookupGlob cfg name ty).isSome = true

/-- "most specific wins" on the `Config` level, without the backtracking hypothesis -/
def unordered_eq_mostSpecific_statement : Prop :=
  ∀ (cfg : Config Unit) (name : Bytes) (ty : Nat), cfg.orderingDisabled = true →
    (lookupGlob cfg name ty).map (·.ruleIdx) = mostSpecificGlob cfg name ty

theorem unordered_complete_cfg_holds : unordered_complete_cfg_statement :=
  fun cfg name ty hod h => (unordered_complete cfg hod name ty).mpr h

theorem unordered_eq_mostSpecific_holds : unordered_eq_mostSpecific_statement :=
  fun cfg name ty hod => unordered_eq_mostSpecific cfg hod name ty

/-! ### The former counterexamples: a record of the repair -/

/-- rules `[a.b.*, *.*.c, *.*.*]` -/
def cexRules : List GRule :=
  [⟨[a, b, starB], none⟩, ⟨[starB, starB, c], none⟩, ⟨[starB, starB, starB], none⟩]

/-- second defect class: the length range of a node is widened by rules of other lengths.
    rules `[a, a.b.c, *.b]` -/
def cexRules₂ : List GRule := [⟨[a], none⟩, ⟨[a, b, c], none⟩, ⟨[starB, b], none⟩]

/-- the smallest instance: rules `[a.*.*, a.b.c]` -/
def cexRules₃ : List GRule := [⟨[a, starB, starB], none⟩, ⟨[a, b, c], none⟩]

/-- `TestIfNeedBacktracking` alone still answers "no" on the counterexample rules … -/
theorem cex_needBT_false : needBT (cexRules.map (·.pat)) true = false := by decide +kernel
theorem cex₂_needBT_false : needBT (cexRules₂.map (·.pat)) true = false := by decide +kernel
theorem cex₃_needBT_false : needBT (cexRules₃.map (·.pat)) true = false := by decide +kernel

/-- … and that alone is insufficient: without backtracking the search loses `a.x.c` (resp. `a.b`,
    `a.b.d`) although a rule matches it (what happened while the heuristic was the whole flag). -/
theorem heuristic_alone_insufficient :
    (pick false (dfs (rulesFor cexRules 0) false [] [] [a, x, c]) = none ∧
      globMatches [starB, starB, c] [a, x, c] = true ∧ globMatches [starB, starB, starB] [a, x, c] = true) ∧
    (pick false (dfs (rulesFor cexRules₂ 0) false [] [] [a, b]) = none ∧
      globMatches [starB, b] [a, b] = true) ∧
    (pick false (dfs (rulesFor cexRules₃ 0) false [] [] [a, b, d]) = none ∧
      globMatches [a, starB, starB] [a, b, d] = true) := by decide +kernel

/-- `HasAmbiguousTransitions` is `true` on all three, so `BacktrackingNeeded` is `true` after the repair … -/
theorem cex_ambiguous : ambiguous cexRules = true ∧ ambiguous cexRules₂ = true ∧ ambiguous cexRules₃ = true := by
  decide +kernel

theorem cex_backtracking : backtracking cexRules true = true ∧ backtracking cexRules₂ true = true ∧
    backtracking cexRules₃ true = true := by decide +kernel

/-- … and the formerly unmapped names are mapped to the most specific matching rule:
    `a.x.c ↦ *.*.c` (not `*.*.*`), -/
theorem cex_repaired : globLookup cexRules true [a, x, c] 0 = some ⟨1, [a, x]⟩ := by
  rw [globLookup_unordered]; decide +kernel
/-- `a.b ↦ *.b`, -/
theorem cex₂_repaired : globLookup cexRules₂ true [a, b] 0 = some ⟨2, [a]⟩ := by
  rw [globLookup_unordered]; decide +kernel
/-- `a.b.d ↦ a.*.*`; and the literal rule still wins where it matches. -/
theorem cex₃_repaired : globLookup cexRules₃ true [a, b, d] 0 = some ⟨0, [b, d]⟩ ∧
    globLookup cexRules₃ true [a, b, c] 0 = some ⟨1, []⟩ := by
  rw [globLookup_unordered, globLookup_unordered]; decide +kernel

/-- the search with backtracking on the counterexample rules gives the spec's answer -/
example : (pick false (dfs (rulesFor cexRules 0) true [] [] [a, x, c])).map (·.rule) = some 1 := by decide +kernel

/-- the metric name `a.x.c` -/
def cexName : Bytes := [97, 46, 120, 46, 99]

/-- the former `Config`-level counterexample: `a.x.c` is mapped, to the rule the spec selects -/
theorem cex_cfg_lookup :
    (lookupGlob (mkCfg (cexRules.map (·.pat)) true) cexName 0).map (·.ruleIdx) = some 1 := by
  rw [unordered_eq_mostSpecific _ rfl]; decide +kernel
theorem cex_cfg_spec : mostSpecificGlob (mkCfg (cexRules.map (·.pat)) true) cexName 0 = some 1 := by decide +kernel

/-! ### Order independence of the specification -/

/-- the pattern of the rule `mostSpecificGlob` selects (`none` if no glob rule matches) -/
def winnerPat (cfg : Config V) (name : Bytes) (ty : Nat) : Option Pat :=
  (mostSpecificGlob cfg name ty).bind (fun i => cfg.rules[i]?.map (·.pat))

/-- On patterns matching one name the C12 order is total: two matching patterns neither of which is
    more specific than the other are equal. Together with transitivity this makes the winner's pattern unique. -/
theorem moreSpecific_total_on_matching (p q name : Pat) (hp : globMatches p name = true)
    (hq : globMatches q name = true) (h1 : moreSpecific p q = false) (h2 : moreSpecific q p = false) : p = q :=
  moreSpecific_total p q name hp hq h1 h2

theorem moreSpecific_transitive (p q r : Pat) (h1 : moreSpecific p q = true) (h2 : moreSpecific q r = true) :
    moreSpecific p r = true := moreSpecific_trans p q r h1 h2

/-- **Order independence**: the *pattern* of the winner under `mostSpecificGlob` is invariant under
    every permutation of the rule list (all other configuration fields are irrelevant). -/
theorem mostSpecific_perm (cfg1 cfg2 : Config V) (hp : cfg1.rules.Perm cfg2.rules) (name : Bytes) (ty : Nat) :
    winnerPat cfg1 name ty = winnerPat cfg2 name ty := by
  unfold winnerPat
  rw [mostSpecificGlob_pat_eq, mostSpecificGlob_pat_eq]
  exact foldl_msStep_perm _ (hp.filter _) (splitOn 46 name)
    fun r hr => ruleMatchesGlob_pat (List.mem_filter.mp hr).2

/-- The same on plain lists of (pattern, type filter): the fold of the spec over the matching rules. -/
def mostSpecificPat (rules : List GRule) (name : Pat) (ty : Nat) : Option Pat :=
  ((rules.filter (fun r => globMatches r.pat name && typeOk r.ty ty)).foldl
    (msStep (fun r : GRule => r.pat)) none).map (·.pat)

theorem mostSpecificPat_perm (l1 l2 : List GRule) (hp : l1.Perm l2) (name : Pat) (ty : Nat) :
    mostSpecificPat l1 name ty = mostSpecificPat l2 name ty := by
  unfold mostSpecificPat
  refine foldl_msStep_perm _ (hp.filter _) name fun r hr => ?_
  rw [List.mem_filter, Bool.and_eq_true] at hr
  exact hr.2.1

/- Non-vacuity / sanity -/
-- backtracking is needed for [a.b.*, *.b.c] and then a.b.c ↦ rule 0 (literal first), x.b.c ↦ rule 1
example : needBT [[a, b, starB], [starB, b, c]] true = true := by decide +kernel
example : (globLookup [⟨[a, b, starB], none⟩, ⟨[starB, b, c], none⟩] true [a, b, c] 0).map (·.rule) = some 0 := by decide +kernel
example : (globLookup [⟨[a, b, starB], none⟩, ⟨[starB, b, c], none⟩] true [x, b, c] 0).map (·.rule) = some 1 := by decide +kernel
-- the spec on the counterexample rules, in two orders: same winning pattern
example : mostSpecificPat cexRules [a, x, c] 0 = some [starB, starB, c] := by decide +kernel
example : mostSpecificPat cexRules.reverse [a, x, c] 0 = some [starB, starB, c] := by decide +kernel

/-- rules `[a.b, c.*]`: neither the heuristic nor the ambiguity test asks for backtracking -/
def detRules : List GRule := [⟨[a, b], none⟩, ⟨[c, starB], none⟩]

-- the deterministic branch of the proof is inhabited: `BacktrackingNeeded = false`, every root is
-- non-ambiguous, the search without backtracking is the search with backtracking, and lookups succeed
example : backtracking detRules true = false := by decide +kernel
example : ambiguousAt (rulesFor detRules 0) = false := no_backtracking_all_roots detRules (by decide +kernel) 0
example : pick false (dfs (rulesFor detRules 0) false [] [] [c, x]) = some ⟨1, [x]⟩ ∧
    pick false (dfs (rulesFor detRules 0) true [] [] [c, x]) = some ⟨1, [x]⟩ := by decide +kernel
example : globLookup detRules true [c, x] 0 = some ⟨1, [x]⟩ ∧ globLookup detRules true [a, b] 1 = some ⟨0, []⟩ ∧
    globLookup detRules true [a, x] 0 = none := by decide +kernel
example : backtracking (toGRules (mkCfg (detRules.map (·.pat)) true)) true = false := by decide +kernel
example : (lookupGlob (mkCfg (detRules.map (·.pat)) true) [99, 46, 120] 0).map (·.ruleIdx) = some 1 := by
  rw [unordered_eq_mostSpecific _ rfl]; decide +kernel
-- a name field that is literally `*`: see `star_field_single_branch` below
-- `ambiguous = true` although the heuristic says no: the repaired branch is inhabited too (`cex_ambiguous`);
-- a root that only a rule's own type names is inspected as well
example : needBT [[a, starB, starB], [a, b, c]] true = false ∧
    ambiguous [⟨[a, starB, starB], some 5⟩, ⟨[a, b, c], some 5⟩] = true ∧
    globLookup [⟨[a, starB, starB], some 5⟩, ⟨[a, b, c], some 5⟩] true [a, b, d] 5 = some ⟨0, [b, d]⟩ := by decide +kernel

/-! ### The repaired `*`-component defect (finding `literal_star_component`, repair 0275669) -/

private def y : Bytes := [121]

/-- A name field that is literally `*` takes the single wildcard branch, with and without backtracking, and is
    recorded as a capture. (Before the repair the backtracking search entered the `*` child twice — first through
    the literal transition, capturing nothing — and reported `[⟨1, []⟩, ⟨1, [*]⟩]`, the other one `[⟨1, []⟩]`.) -/
theorem star_field_single_branch :
    dfs (rulesFor detRules 0) true [] [] [c, starB] = [⟨1, [starB]⟩] ∧
    dfs (rulesFor detRules 0) false [] [] [c, starB] = [⟨1, [starB]⟩] := by decide +kernel

/-- **The repair, on the former counterexample, unordered mode**: rules `[a.*.*]`, name `a.*.y` — the captures are
    `[*, y]` = `capturesOf` (they were `(y, "")`): without backtracking (`BacktrackingNeeded = false` for this
    rule set), and with it (a second rule `a.b.y` makes the trie ambiguous). -/
theorem star_component_captured :
    backtracking [⟨[a, starB, starB], none⟩] true = false ∧
    globLookup [⟨[a, starB, starB], none⟩] true [a, starB, y] 0 = some ⟨0, [starB, y]⟩ ∧
    backtracking [⟨[a, starB, starB], none⟩, ⟨[a, b, y], none⟩] true = true ∧
    globLookup [⟨[a, starB, starB], none⟩, ⟨[a, b, y], none⟩] true [a, starB, y] 0 = some ⟨0, [starB, y]⟩ ∧
    capturesOf [a, starB, starB] [a, starB, y] = [starB, y] := by decide +kernel

/-- the metric name `a.*.y` -/
def starName : Bytes := [97, 46, 42, 46, 121]

/-- The same through `lookupGlob` on the `Config` level, in either mode (`od` = `glob_disable_ordering`): the
    mapping returned for `a.*.y` is rule 0 with its (empty) name template formatted with the captures `[*, y]`. -/
theorem star_component_captured_cfg (od : Bool) :
    globLookup (toGRules (mkCfg [[a, starB, starB]] od)) od (splitOn 46 starName) 0 = some ⟨0, [starB, y]⟩ ∧
    lookupGlob (mkCfg [[a, starB, starB]] od) starName 0 =
      some { ruleIdx := 0, name := (compileTemplate [] 2).format [starB, y], labels := [] } := by
  cases od <;> decide +kernel

/-- … and that name is the empty template's expansion, `""` (a template without references is returned as it is) -/
theorem star_component_captured_name :
    (compileTemplate [] 2).format [starB, y] = some [] ∧ expandSpec [starB, y] 0 [] = some [] := by decide +kernel

end SE.Props.C12
