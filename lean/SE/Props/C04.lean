import SE.Proofs.GlobBridge
import SE.Proofs.FirstMatch
import SE.Proofs.SafetyLoad
/-
C04 — Ordered glob mapping: the first matching rule wins.

`lookup` / `lookupGlob` / `globLookup` are the models of `MetricMapper.GetMapping` and
`FSM.GetMapping` (SE/Model/Mapper.lean, SE/Model/Glob.lean); `firstGlob`, `firstRegex`,
`firstMatch` are the specifications (SE/Spec/Mapping.lean). Every theorem quantifies over
*all* configurations, metric names (byte strings) and metric types; there is no size bound.
"Ordered mode" is `cfg.orderingDisabled = false`; then `BacktrackingNeeded` is `true`
by the definition of `TestIfNeedBacktracking` (`needBT_ordered`).

The capture statements (`trie_dfs_sound`, `trie_dfs_complete`, `glob_captures`, `globLookup_captures`)
hold for *every* name, including names with a component that is literally `*`. Before repair 0275669 such
a component was looked up among the literal transitions, found the wildcard transition there and was not
recorded as a capture, so that all later captures were shifted (the finding `literal_star_component`).
Now a `*` component takes the wildcard branch like any other component that has no literal transition and is
captured: `star_component_captured` records the repaired behaviour on the former counterexample.
-/
namespace SE.Props.C04
open SE
variable {V : Type}

/-- In ordered mode `TestIfNeedBacktracking` always answers "backtracking needed". -/
theorem needBT_ordered (pats : List Pat) : needBT pats false = true := rfl

/-- Soundness of the trie search (any mode, with or without backtracking): every final state the
    search reports is owned by a rule of the type root whose pattern matches the name component-wise,
    and its captures are the name components under the `*`s of that pattern. -/
theorem trie_dfs_sound (rs : TRules) (bt : Bool) (name : Pat) (f : Found)
    (h : f ∈ dfs rs bt [] [] name) :
    ∃ pat, (f.rule, pat) ∈ rs ∧ globMatches pat name = true ∧ result rs pat = some f.rule ∧
      f.caps = capturesOf pat name := by
  obtain ⟨pat, h1, h2, h3⟩ := dfs_root_sound h
  exact ⟨pat, result_some_mem h2, h1, h2, h3⟩

/-- Completeness of the trie search with backtracking: every rule of the type root that matches the
    name and is the first with its pattern (so it owns its final node) is reported, with the captures of
    its pattern; the `[min,max]` length pruning never cuts it off. -/
theorem trie_dfs_complete (rs : TRules) (name : Pat) (hne : name ≠ []) (i : Nat) (pat : Pat)
    (hm : globMatches pat name = true) (hr : result rs pat = some i) :
    ∃ c, (⟨i, c⟩ : Found) ∈ dfs rs true [] [] name ∧ c = capturesOf pat name :=
  ⟨_, (mem_dfs_root hne).mpr ⟨pat, hm, hr, rfl⟩, rfl⟩

/-- Ordered `pick` selects a reported state with the smallest rule index. -/
theorem pick_ordered_min {fs : List Found} {b : Found} (h : pick true fs = some b) :
    b ∈ fs ∧ ∀ f ∈ fs, b.rule ≤ f.rule := pick_ordered_some h

/-- Ordered `pick` finds something iff the search reported something. -/
theorem pick_ordered_none_iff {fs : List Found} : pick true fs = none ↔ fs = [] := pick_ordered_none

/-- Unordered `pick` is the first reported state. -/
theorem pick_unordered_head (fs : List Found) : pick false fs = fs.head? := pick_unordered fs

/-- **Ordered glob lookup = first matching glob rule** (rule index in `cfg.rules`), for every
    configuration, name and type. -/
theorem glob_ordered_eq_firstGlob (cfg : Config V) (hord : cfg.orderingDisabled = false)
    (name : Bytes) (ty : Nat) :
    (lookupGlob cfg name ty).map (·.ruleIdx) = firstGlob cfg name ty := by
  rw [lookupGlob_eq, globWinner_ordered hord, firstGlob_eq_head, Option.map_map]
  rfl

/-- **Captures / full result of the ordered glob lookup**, for every name (a component that is
    literally `*` included): the mapping returned is the first matching glob rule `r` (index `i`), and
    its name and label values are `r`'s templates formatted with `capturesOf r.pat name`. -/
theorem glob_captures (cfg : Config V) (hord : cfg.orderingDisabled = false)
    (name : Bytes) (ty : Nat) (m : Mapped)
    (hm : lookupGlob cfg name ty = some m) :
    ∃ i r, firstGlob cfg name ty = some i ∧ cfg.rules[i]? = some r ∧
      ruleMatchesGlob r (splitOn 46 name) ty = true ∧
      m = { ruleIdx := i,
            name := (compileTemplate r.name r.captureCount).format (capturesOf r.pat (splitOn 46 name)),
            labels := r.labels.map fun (k, t) =>
              (k, (compileTemplate t r.captureCount).format (capturesOf r.pat (splitOn 46 name))) } := by
  rw [lookupGlob_eq, Option.map_eq_some_iff] at hm
  obtain ⟨⟨⟨r, i⟩, g⟩, hy, rfl⟩ := hm
  have hk := globWinner_some hy
  rw [globWinner_ordered hord] at hy
  exact ⟨i, r, by rw [firstGlob_eq_head, hy]; rfl, hk.2.1, hk.2.2, rfl⟩

/-- The captures themselves, on the FSM level: in ordered mode, for every name, the captures returned
    by `FSM.GetMapping` are `capturesOf pat name` for the winning rule. -/
theorem globLookup_captures (cfg : Config V) (hord : cfg.orderingDisabled = false)
    (name : Bytes) (ty : Nat) (f : Found)
    (hf : globLookup (toGRules cfg) cfg.orderingDisabled (splitOn 46 name) ty = some f) :
    ∃ i r, firstGlob cfg name ty = some i ∧ cfg.rules[i]? = some r ∧
      (globRules cfg)[f.rule]? = some (i, r) ∧ f.caps = capturesOf r.pat (splitOn 46 name) := by
  rw [globLookup_eq cfg _ (splitOn_ne_nil _ _), Option.map_eq_some_iff] at hf
  obtain ⟨⟨⟨r, i⟩, g⟩, hy, rfl⟩ := hf
  have hk := globWinner_some hy
  rw [globWinner_ordered hord] at hy
  exact ⟨i, r, by rw [firstGlob_eq_head, hy]; rfl, hk.2.1, hk.1, rfl⟩

/-- `lookupRegex` is "the first regex rule, in configuration order, that matches and passes the type filter". -/
theorem regex_eq_firstRegex (cfg : Config V) (rx : Rx) (name : Bytes) (ty : Nat) :
    (lookupRegex cfg rx name ty).map (·.ruleIdx) = firstRegex cfg rx name ty :=
  SE.regex_eq_firstRegex cfg rx name ty

/-- **Ordered lookup = first match** (glob rules first, then regex rules), for every configuration
    whose `doFSM` flag is what the loader computes (`DoFSMConsistent cfg`:
    `cfg.doFSM = cfg.rules.any (·.matchType == .glob)`), every regex oracle, name and type. -/
theorem lookup_eq_firstMatch (cfg : Config V) (hord : cfg.orderingDisabled = false)
    (hwf : DoFSMConsistent cfg) (rx : Rx) (name : Bytes) (ty : Nat) :
    (lookup cfg rx name ty).map (·.ruleIdx) = firstMatch cfg rx name ty := by
  rw [lookup_eq_or cfg hwf, Option.map_or, regex_eq_firstRegex, glob_ordered_eq_firstGlob cfg hord, firstMatch]
  cases firstGlob cfg name ty <;> rfl

/-- Every configuration the loader produces satisfies the `doFSM` hypothesis of `lookup_eq_firstMatch`. -/
theorem load_doFSMConsistent [NumOps V] (rxOk : Bytes → Bool) (db : List V) (dq : List (V × V)) (raw : RawConfig V)
    (cfg : Config V) (h : load rxOk db dq raw = .ok cfg) : DoFSMConsistent cfg := by
  obtain ⟨_, _, _, L⟩ := load_ok_inv h
  exact L.doFSM

/-! ### Corollaries on the specification

`cfg` and `cfg'` are two configurations whose rule lists are related as stated; all other fields are
irrelevant to `firstGlob` / `firstRegex` / `firstMatch`. Regex oracles are indexed by rule position,
so an insertion comes with the re-indexed oracle `rx'`. `shiftAt k i` is the new index of old rule
`i` after an insertion at position `k` (`i` if `i < k`, else `i + 1`). -/

/-- Inserting, anywhere, a rule that does not glob-match the name/type leaves the winning glob rule
    unchanged (its index shifts past the insertion point). -/
theorem firstGlob_insert_nonmatching (cfg cfg' : Config V) (pre post : List (Rule V)) (r : Rule V)
    (name : Bytes) (ty : Nat) (h : cfg.rules = pre ++ post) (h' : cfg'.rules = pre ++ r :: post)
    (hr : ruleMatchesGlob r (splitOn 46 name) ty = false) :
    firstGlob cfg' name ty = (firstGlob cfg name ty).map (shiftAt pre.length) := by
  rw [firstGlob_eq_find, firstGlob_eq_find, h, h']
  exact find?_zipIdx_insert pre post r hr (fun _ _ _ => rfl) (fun _ _ _ _ => rfl)

/-- The same for regex rules: the inserted rule is not a regex rule that matches (under the new oracle
    `rx'` at its position) and passes the type filter; `rx'` is `rx` re-indexed. -/
theorem firstRegex_insert_nonmatching (cfg cfg' : Config V) (pre post : List (Rule V)) (r : Rule V)
    (rx rx' : Rx) (name : Bytes) (ty : Nat) (h : cfg.rules = pre ++ post) (h' : cfg'.rules = pre ++ r :: post)
    (hr : (r.matchType == .regex && (rx' pre.length name).isSome && typeOk r.matchMetricType ty) = false)
    (hlt : ∀ i, i < pre.length → rx' i name = rx i name)
    (hge : ∀ i, pre.length ≤ i → i < pre.length + post.length → rx' (i + 1) name = rx i name) :
    firstRegex cfg' rx' name ty = (firstRegex cfg rx name ty).map (shiftAt pre.length) := by
  rw [firstRegex_eq_find, firstRegex_eq_find, h, h']
  apply find?_zipIdx_insert pre post r hr
  · intro x i hi; simp only [regexHit, hlt i hi]
  · intro x i h1 h2; simp only [regexHit, hge i h1 h2]

/-- **Inserting a non-matching rule anywhere does not change which rule wins** (`firstMatch`), up to
    the index shift caused by the insertion. -/
theorem firstMatch_insert_nonmatching (cfg cfg' : Config V) (pre post : List (Rule V)) (r : Rule V)
    (rx rx' : Rx) (name : Bytes) (ty : Nat) (h : cfg.rules = pre ++ post) (h' : cfg'.rules = pre ++ r :: post)
    (hrg : ruleMatchesGlob r (splitOn 46 name) ty = false)
    (hrr : (r.matchType == .regex && (rx' pre.length name).isSome && typeOk r.matchMetricType ty) = false)
    (hlt : ∀ i, i < pre.length → rx' i name = rx i name)
    (hge : ∀ i, pre.length ≤ i → i < pre.length + post.length → rx' (i + 1) name = rx i name) :
    firstMatch cfg' rx' name ty = (firstMatch cfg rx name ty).map (shiftAt pre.length) := by
  unfold firstMatch
  rw [firstGlob_insert_nonmatching cfg cfg' pre post r name ty h h' hrg,
    firstRegex_insert_nonmatching cfg cfg' pre post r rx rx' name ty h h' hrr hlt hge]
  cases firstGlob cfg name ty <;> rfl

/-- **Erasing a non-matching rule does not change which rule wins**: the previous theorem read from
    the larger configuration (`unshiftAt k i` = `i` if `i ≤ k`, else `i - 1`). -/
theorem firstMatch_erase_nonmatching (cfg cfg' : Config V) (pre post : List (Rule V)) (r : Rule V)
    (rx rx' : Rx) (name : Bytes) (ty : Nat) (h : cfg.rules = pre ++ post) (h' : cfg'.rules = pre ++ r :: post)
    (hrg : ruleMatchesGlob r (splitOn 46 name) ty = false)
    (hrr : (r.matchType == .regex && (rx' pre.length name).isSome && typeOk r.matchMetricType ty) = false)
    (hlt : ∀ i, i < pre.length → rx' i name = rx i name)
    (hge : ∀ i, pre.length ≤ i → i < pre.length + post.length → rx' (i + 1) name = rx i name) :
    firstMatch cfg rx name ty = (firstMatch cfg' rx' name ty).map (unshiftAt pre.length) := by
  rw [firstMatch_insert_nonmatching cfg cfg' pre post r rx rx' name ty h h' hrg hrr hlt hge,
    Option.map_map]
  cases firstMatch cfg rx name ty with
  | none => rfl
  | some i => rw [Option.map_some, Function.comp_apply, unshiftAt_shiftAt]

/-- A winner is a valid rule index. -/
theorem firstMatch_lt_length (cfg : Config V) (rx : Rx) (name : Bytes) (ty : Nat) (i : Nat)
    (h : firstMatch cfg rx name ty = some i) : i < cfg.rules.length := by
  -- the winner is the first hit of one of the two predicates
  have key {P} (hP : (cfg.rules.zipIdx.find? P).map (·.2) = some i) : i < cfg.rules.length :=
    have ⟨_, _, hr, _⟩ := find?_zipIdx_some hP
    (List.getElem?_eq_some_iff.mp hr).1
  unfold firstMatch at h
  split at h
  next j hg => exact key (hg.trans h)
  next => exact key h

/-- **Appending a non-matching rule changes nothing** (same oracle, same winning index). -/
theorem firstMatch_append_nonmatching (cfg cfg' : Config V) (r : Rule V) (rx : Rx) (name : Bytes) (ty : Nat)
    (h' : cfg'.rules = cfg.rules ++ [r])
    (hrg : ruleMatchesGlob r (splitOn 46 name) ty = false)
    (hrr : (r.matchType == .regex && (rx cfg.rules.length name).isSome && typeOk r.matchMetricType ty) = false) :
    firstMatch cfg' rx name ty = firstMatch cfg rx name ty := by
  rw [firstMatch_insert_nonmatching cfg cfg' cfg.rules [] r rx rx name ty (List.append_nil _).symm h' hrg hrr
    (fun _ _ => rfl) (fun i h1 h2 => absurd h2 (Nat.not_lt.mpr h1))]
  cases hm : firstMatch cfg rx name ty with
  | none => rfl
  | some i => rw [Option.map_some, shiftAt, if_pos (firstMatch_lt_length cfg rx name ty i hm)]

/-- **Rules after a glob winner are irrelevant**: any configuration that agrees with `cfg` up to and
    including the winning glob rule has the same `firstGlob`. -/
theorem firstGlob_later_rules_irrelevant (cfg cfg' : Config V) (name : Bytes) (ty i : Nat)
    (h : firstGlob cfg name ty = some i) (htake : cfg'.rules.take (i + 1) = cfg.rules.take (i + 1)) :
    firstGlob cfg' name ty = some i :=
  find?_zipIdx_take cfg.rules cfg'.rules _ _ i h htake (fun _ _ _ => rfl)

/-- **Rules after the winner are irrelevant** (glob winner): changing, reordering, adding or removing
    rules after the winning glob rule — and changing the regex oracle arbitrarily — does not change
    the winner. -/
theorem firstMatch_later_rules_irrelevant (cfg cfg' : Config V) (rx rx' : Rx) (name : Bytes) (ty i : Nat)
    (h : firstGlob cfg name ty = some i) (htake : cfg'.rules.take (i + 1) = cfg.rules.take (i + 1)) :
    firstMatch cfg' rx' name ty = some i ∧ firstMatch cfg rx name ty = some i := by
  unfold firstMatch
  rw [firstGlob_later_rules_irrelevant cfg cfg' name ty i h htake, h]
  exact ⟨rfl, rfl⟩

/-- **Rules after the winner are irrelevant** (regex winner): if no glob rule matches and regex rule `i`
    wins, then any configuration that agrees up to and including rule `i`, whose later rules contain
    no matching glob rule, and whose oracle agrees on the rules up to `i`, has the same winner. -/
theorem firstMatch_later_rules_irrelevant_regex (cfg cfg' : Config V) (rx rx' : Rx) (name : Bytes) (ty i : Nat)
    (hg : firstGlob cfg name ty = none) (h : firstRegex cfg rx name ty = some i)
    (htake : cfg'.rules.take (i + 1) = cfg.rules.take (i + 1))
    (hlater : ∀ r ∈ cfg'.rules.drop (i + 1), ruleMatchesGlob r (splitOn 46 name) ty = false)
    (hrx : ∀ j, j ≤ i → rx' j name = rx j name) :
    firstMatch cfg' rx' name ty = some i := by
  have hg' : firstGlob cfg' name ty = none := by
    rw [firstGlob_none_iff] at hg ⊢
    intro r hr
    rw [← List.take_append_drop (i + 1) cfg'.rules, htake, List.mem_append] at hr
    exact hr.elim (fun hr => hg r (List.mem_of_mem_take hr)) (hlater r)
  unfold firstMatch
  rw [hg']
  exact find?_zipIdx_take cfg.rules cfg'.rules _ (regexHit rx' name ty) i h htake
    (fun y j hj => by simp only [regexHit, hrx j hj])

/- Non-vacuity / sanity on concrete rule sets (FSM level; indices are glob indices). -/
section examples
private def a : Bytes := [97]
private def b : Bytes := [98]
private def c : Bytes := [99]
-- rules [a.b.c, a.b], lookup a.b ↦ rule 1 (the shorter rule owns the inner node)
example : (globLookup [⟨[a, b, c], none⟩, ⟨[a, b], none⟩] false [a, b] 0).map (·.rule) = some 1 := by decide +kernel
-- rules [a.b, *.b, a.b], lookup a.b ↦ rule 0 (the first of two identical patterns wins)
example : (globLookup [⟨[a, b], none⟩, ⟨[starB, b], none⟩, ⟨[a, b], none⟩] false [a, b] 0).map (·.rule) = some 0 := by decide +kernel
-- rules [*.b, a.*], lookup a.b ↦ rule 0 although the literal branch is explored first; captures of rule 0
example : globLookup [⟨[starB, b], none⟩, ⟨[a, starB], none⟩] false [a, b] 0 = some ⟨0, [a]⟩ := by decide +kernel
-- the type filter: rule 0 is gauge-only, a counter lookup falls to rule 1
example : (globLookup [⟨[a, b], some 1⟩, ⟨[a, starB], none⟩] false [a, b] 0).map (·.rule) = some 1 := by decide +kernel
end examples

/-! ### The repaired `*`-component defect (finding `literal_star_component`, repair 0275669)

Before the repair a name component that was literally `*` reached the `*` child through the *literal*
transition, so nothing was captured for it and the later captures were shifted: rule `a.*.*`, name `a.*.y`
gave the captures `(y, "")` where `(*, y)` was expected; rule `*.b`, name `*.b` gave no capture at all. -/
section repair
private def y : Bytes := [121]

/-- **The repair, on the former counterexample**: rules `[a.*.*]`, name `a.*.y` — the captures are
    `[*, y]` = `capturesOf`, in ordered mode (and in unordered mode, with or without another rule that makes the
    trie ambiguous). -/
theorem star_component_captured :
    globLookup [⟨[a, starB, starB], none⟩] false [a, starB, y] 0 = some ⟨0, [starB, y]⟩ ∧
    globLookup [⟨[a, starB, starB], none⟩] true [a, starB, y] 0 = some ⟨0, [starB, y]⟩ ∧
    globLookup [⟨[a, starB, starB], none⟩, ⟨[a, b, y], none⟩] true [a, starB, y] 0 = some ⟨0, [starB, y]⟩ ∧
    capturesOf [a, starB, starB] [a, starB, y] = [starB, y] := by decide +kernel

/-- the one-`*` instance: rule `*.b`, name `*.b` captures `*` (nothing at all before the repair) -/
theorem star_component_captured₁ :
    globLookup [⟨[starB, b], none⟩] false [starB, b] 0 = some ⟨0, [starB]⟩ ∧
    capturesOf [starB, b] [starB, b] = [starB] := by decide +kernel

/-- a `*` component of the name is matched by a `*` of the pattern only: the pattern's literal components are not `*`
    (a pattern component equal to `*` *is* the wildcard), so the literal rule `a.b` does not match `a.*`,
    and the literal transition is never taken for it — `a.*` falls to the wildcard rule although `a.b` comes first -/
theorem star_component_no_literal :
    globMatches [a, b] [a, starB] = false ∧
    globLookup [⟨[a, b], none⟩, ⟨[a, starB], none⟩] false [a, starB] 0 = some ⟨1, [starB]⟩ := by decide +kernel

/-- the general theorem instantiated on the search itself: every final state the backtracking search reports for
    `a.*.y` carries `capturesOf` of its pattern (`trie_dfs_sound`) -/
example : dfs (rulesFor [⟨[a, starB, starB], none⟩, ⟨[a, starB, y], none⟩, ⟨[starB, starB, y], none⟩] 0) true [] []
      [a, starB, y] = [⟨1, [starB]⟩, ⟨0, [starB, y]⟩, ⟨2, [a, starB]⟩] := by decide +kernel
end repair

end SE.Props.C04
