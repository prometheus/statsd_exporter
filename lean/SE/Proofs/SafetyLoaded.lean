import SE.Proofs.SafetyLoad
import SE.Proofs.SafetyPipe
/-
A configuration the (repaired) loader accepts is `ConfigSafe`. `load` runs `validateBuckets` / `validateSummaryOptions`
on the effective defaults and on the effective options of every rule (`LoadOk`, `LoadOk.ruleOpts`); what the exporter
hands to the histogram / summary constructors (`ruleBounds`, `ruleMaxAge`, `ruleObjectives`) is always one of the
validated option sets. The hypotheses, collected in `LoaderAssumptions`, are hypotheses of the theorems: no axiom is
declared.
-/
namespace SE
variable {V : Type} [NumOps V]

/-- **Objective law** (a fact about IEEE arithmetic, assumed of the number type): for a quantile rank
    `q ∈ [0, 1]` perks' `Query` never indexes out of range — `ceil(l·q)` stays within `[0, l]` — whatever the
    number `l` of samples. -/
def ObjectiveLaw (V : Type) [NumOps V] : Prop :=
  ∀ (q : V), NumOps.ge q NumOps.zero = true → NumOps.le q NumOps.one = true → ∀ l, queryPanics l q = false

/-- **What `accepted_config_safe` assumes** about the number type:
    * `objectiveLaw`: ranks in `[0, 1]` never make `Query` index out of range (IEEE fact about `ceil(l·q)`).

    Nothing is assumed about the raw configuration: since the repair 2eac18a the loader validates the effective
    window (library defaults filled in) against `minStreamDuration`, so not even the `uint32` typing of
    `age_buckets` is needed (before that repair, with `max_age` unset, the stream duration
    `600000000000 / age_buckets` went unchecked).

    The library defaults `db` / `dq` handed to `load` need no hypothesis: `load` validates the *effective*
    defaults, which are the library's whenever the configuration sets none. -/
structure LoaderAssumptions (raw : RawConfig V) : Prop where
  objectiveLaw : ObjectiveLaw V

/-- the library defaults handed to `load` are themselves valid (`prometheus.DefBuckets` strictly increasing,
    `defaultQuantiles` with ranks in `[0, 1]`); needed only for a configuration without defaults of its own to
    be *accepted* -/
structure LibraryDefaultsSane (db : List V) (dq : List (V × V)) : Prop where
  buckets : strictlyIncreasing db = true
  quantiles : ∀ q, q ∈ dq → NumOps.ge q.1 NumOps.zero = true ∧ NumOps.le q.1 NumOps.one = true

theorem summaryOptsOk_iff (quantiles : List (V × V)) (maxAge : Int) (ageBuckets : Nat) :
    summaryOptsOk quantiles maxAge ageBuckets = true ↔
      (∀ q, q ∈ quantiles → NumOps.ge q.1 NumOps.zero = true ∧ NumOps.le q.1 NumOps.one = true) ∧
      0 ≤ maxAge ∧ minStreamDuration ≤ streamDuration maxAge ageBuckets := by
  unfold summaryOptsOk streamDuration
  rw [apply_ite Nat.cast]
  simp only [Bool.and_eq_true, List.all_eq_true, Bool.not_eq_true', decide_eq_false_iff_not, Int.not_lt, and_assoc,
    Int.cast_ofNat_Int]

theorem objectivesSafe_of_ranks (law : ObjectiveLaw V) (quantiles : List (V × V))
    (h : ∀ q, q ∈ quantiles → NumOps.ge q.1 NumOps.zero = true ∧ NumOps.le q.1 NumOps.one = true) :
    ObjectivesSafe (quantiles.map (·.1)) := by
  intro l q hq
  obtain ⟨p, hp, e⟩ := List.mem_map.mp hq
  subst e
  exact law p.1 (h p hp).1 (h p hp).2 l

theorem summarySafe_of_ok (law : ObjectiveLaw V) {quantiles : List (V × V)} {maxAge : Int} {ageBuckets : Nat}
    (h : summaryOptsOk quantiles maxAge ageBuckets = true) :
    SummarySafe maxAge ageBuckets (quantiles.map (·.1)) := by
  obtain ⟨hq, h0, hd⟩ := (summaryOptsOk_iff _ _ _).mp h
  refine ⟨h0, ?_, objectivesSafe_of_ranks law quantiles hq⟩
  unfold minStreamDuration at hd
  omega

/-- the validated state of a loaded configuration, in terms of the configuration alone -/
structure ConfigValidated (cfg : Config V) : Prop where
  dBuckets : strictlyIncreasing cfg.dBuckets = true
  dSummary : summaryOptsOk cfg.dQuantiles cfg.dMaxAge cfg.dAgeBuckets = true
  ruleBuckets : ∀ r, r ∈ cfg.rules → r.hasHistOpts = true → strictlyIncreasing r.buckets = true
  ruleSummary : ∀ r, r ∈ cfg.rules → r.hasSummaryOpts = true → summaryOptsOk r.quantiles r.maxAge r.ageBuckets = true

theorem load_validated {rxOk : Bytes → Bool} {db : List V} {dq : List (V × V)} {raw : RawConfig V} {cfg : Config V}
    (h : load rxOk db dq raw = .ok cfg) : ConfigValidated cfg := by
  obtain ⟨_, _, _, L⟩ := load_ok_inv h
  refine ⟨L.dBuckets ▸ L.bucketsOk, ?_, fun _ hm => (L.ruleOpts hm).1, fun _ hm => (L.ruleOpts hm).2⟩
  rw [L.dQuantiles, L.dMaxAge, L.dAgeBuckets]
  exact L.summaryOk

theorem configSafe_of_validated (law : ObjectiveLaw V) {cfg : Config V} (hv : ConfigValidated cfg) : ConfigSafe cfg := by
  have hdef : SummarySafe cfg.dMaxAge cfg.dAgeBuckets (cfg.dQuantiles.map (·.1)) :=
    summarySafe_of_ok law hv.dSummary
  refine ⟨fun r hr _ => .of_both ?_ ?_, .of_both hv.dBuckets hdef⟩
  · -- the rule's own buckets (validated because `hasHistOpts`) or the default buckets
    unfold ruleBounds
    split
    · rename_i hb
      exact hv.ruleBuckets r hr (Bool.and_eq_true_iff.mp hb).1
    · exact hv.dBuckets
  · -- MaxAge / AgeBuckets of the rule if it has summary options, else the defaults';
    -- the rule's quantiles if it has some, else the defaults'
    unfold ruleMaxAge ruleObjectives
    cases hs : r.hasSummaryOpts with
    | false => exact hdef
    | true =>
      have hrs := summarySafe_of_ok law (hv.ruleSummary r hr hs)
      refine ⟨hrs.maxAge_nonneg, hrs.duration_ne_zero, ?_⟩
      split
      · exact hrs.objectives
      · exact hdef.objectives

theorem load_configSafe {rxOk : Bytes → Bool} {db : List V} {dq : List (V × V)} {raw : RawConfig V} {cfg : Config V}
    (ha : LoaderAssumptions raw) (h : load rxOk db dq raw = .ok cfg) : ConfigSafe cfg :=
  configSafe_of_validated ha.objectiveLaw (load_validated h)

def Loaded (cfg : Config V) : Prop :=
  ∃ (rxOk : Bytes → Bool) (db : List V) (dq : List (V × V)) (raw : RawConfig V),
    LoaderAssumptions raw ∧ load rxOk db dq raw = .ok cfg

theorem Loaded.configSafe {cfg : Config V} (h : Loaded cfg) : ConfigSafe cfg := by
  obtain ⟨_, _, _, _, ha, hl⟩ := h
  exact load_configSafe ha hl

/-- every configuration a history reloads came out of the loader -/
def OpsLoaded (ops : List (PipeOp V)) : Prop := ∀ m, PipeOp.reload m ∈ ops → Loaded m.cfg

theorem OpsLoaded.opsSafe {ops : List (PipeOp V)} (h : OpsLoaded ops) : OpsSafe ops :=
  fun m hm => (h m hm).configSafe

end SE
