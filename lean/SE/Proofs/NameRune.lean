import SE.Spec.TemplateRefs
import SE.Proofs.Bytes
/-
Go's rune-wise reference-name scan (`nameRune`, `nameLenU`, `rxExtractU`: the model of `extract` in
regexp/regexp.go), which `expandSpec`, `regexp.Expand` (`rxExpand`) and — since the repair a7bcc3e — the glob
formatter (`substRefs`) all use. It does not see the `%`-escaping the glob formatter applies before it scans: `%` is
no name rune, no `{`, no `}` and no continuation byte, so the escaping does not touch a name (`nameLenU_some`) and
`extract` on the escaped text finds the same name and the escaped rest (`rxExtractU_escapePct`).
-/
namespace SE

theorem isWordByte_lt (b : UInt8) (h : isWordByte b = true) : b < 0x80 := by
  simp only [isWordByte, Bool.or_eq_true, Bool.and_eq_true, decide_eq_true_eq, beq_iff_eq] at h
  simp only [UInt8.le_iff_toNat_le, UInt8.lt_iff_toNat_lt, ← UInt8.toNat_inj] at h ⊢
  simp at h ⊢
  omega

theorem not_ascii_of_ge (b : UInt8) (hb : 0xC2 ≤ b) : ¬ b < 0x80 :=
  UInt8.not_lt.mpr (UInt8.le_trans (by decide) hb)

theorem nameRune_ascii (b : UInt8) (h : b < 0x80) (r : Bytes) : nameRune (b :: r) = some (1, isWordByte b) := by
  simp [nameRune, h]

theorem nameRune_nil : nameRune [] = some (0, false) := rfl

theorem nameRune_two (b c : UInt8) (r : Bytes) (hb : 0xC2 ≤ b ∧ b ≤ 0xC9) (hc : 0x80 ≤ c ∧ c ≤ 0xBF) :
    nameRune (b :: c :: r) = some (2, isLetterLatin ((b.toNat - 0xC0) * 64 + (c.toNat - 0x80))) := by
  have h1 : ¬ b < 0x80 := not_ascii_of_ge b hb.1
  simp [nameRune, h1, hb.1, hb.2, hc.1, hc.2]

theorem nameRune_unmodelled (b : UInt8) (r : Bytes) (hb : 0xCA ≤ b ∧ b ≤ 0xF4) : nameRune (b :: r) = none := by
  have h1 : ¬ b < 0x80 := not_ascii_of_ge b (UInt8.le_trans (by decide) hb.1)
  have h2 : ¬ b ≤ 0xC9 := UInt8.not_le.mpr (UInt8.lt_of_lt_of_le (by decide) hb.1)
  simp [nameRune, h1, hb.1, hb.2, h2]

theorem escapePct_nil : escapePct [] = [] := rfl

theorem escapePct_append (s t : Bytes) : escapePct (s ++ t) = escapePct s ++ escapePct t :=
  List.flatMap_append

theorem escapePct_cons_cases (b : UInt8) (s : Bytes) :
    (b = cPct ∧ escapePct (b :: s) = cPct :: cPct :: escapePct s) ∨
    ((b == cPct) = false ∧ escapePct (b :: s) = b :: escapePct s) := by
  unfold escapePct
  rw [List.flatMap_cons]
  cases hb : b == cPct with
  | true => exact .inl ⟨beq_iff_eq.mp hb, rfl⟩
  | false => exact .inr ⟨rfl, rfl⟩

theorem length_le_escapePct (s : Bytes) : s.length ≤ (escapePct s).length := by
  induction s with
  | nil => exact Nat.le_refl _
  | cons b s ih =>
    rcases escapePct_cons_cases b s with ⟨_, h⟩ | ⟨_, h⟩ <;> rw [h] <;> simp only [List.length_cons] <;> omega

theorem nameRune_true (s : Bytes) (w : Nat) : nameRune s = some (w, true) →
    1 ≤ w ∧ w ≤ s.length ∧ (escapePct s).take w = s.take w ∧ (escapePct s).drop w = escapePct (s.drop w) := by
  cases s with
  | nil => nofun
  | cons b rest =>
    by_cases h1 : b < 0x80
    · -- ASCII: one word byte, and `%` is none
      rw [nameRune_ascii b h1, Option.some.injEq, Prod.mk.injEq]
      intro ⟨hw1, hw⟩
      subst hw1
      rcases escapePct_cons_cases b rest with ⟨rfl, _⟩ | ⟨_, he⟩
      · exact absurd hw (by decide)
      · rw [he]
        exact ⟨Nat.le_refl _, Nat.le_add_left .., rfl, rfl⟩
    · unfold nameRune
      dsimp only
      rw [if_neg h1]
      cases hr : (0xC2 ≤ b && b ≤ 0xC9) with
      | false => cases (0xCA ≤ b && b ≤ 0xF4) <;> nofun
      | true =>
        cases rest with
        | nil => nofun
        | cons c r =>
          dsimp only
          cases hcr : (0x80 ≤ c && c ≤ 0xBF) with
          | false => nofun
          | true =>
            -- a lead byte 0xC2..0xC9 and a continuation byte: neither is `%`
            rw [if_pos rfl, if_pos rfl, Option.some.injEq, Prod.mk.injEq]
            intro ⟨hw1, _⟩
            subst hw1
            rcases escapePct_cons_cases b (c :: r) with ⟨rfl, _⟩ | ⟨_, hb⟩
            · exact absurd hr (by decide)
            rcases escapePct_cons_cases c r with ⟨rfl, _⟩ | ⟨_, hc⟩
            · exact absurd hcr (by decide)
            rw [hb, hc]
            exact ⟨by omega, by simp, rfl, rfl⟩

theorem nameRune_escapePct (s : Bytes) : nameRune (escapePct s) = nameRune s := by
  cases s with
  | nil => rfl
  | cons b rest =>
    rcases escapePct_cons_cases b rest with ⟨rfl, h⟩ | ⟨_, h⟩ <;> rw [h]
    · rfl
    · -- `nameRune` looks at `b` and at the byte behind it, which is the same in both texts
      cases rest with
      | nil => rfl
      | cons c r => rcases escapePct_cons_cases c r with ⟨rfl, h2⟩ | ⟨_, h2⟩ <;> rw [h2] <;> rfl

theorem nameLenU_some : ∀ (fuel : Nat) (s : Bytes) (n : Nat), nameLenU fuel s = some n →
    (escapePct s).take n = s.take n ∧ (escapePct s).drop n = escapePct (s.drop n)
  | 0, _, _ => nofun
  | fuel + 1, s, n => by
    rw [nameLenU]
    cases hr : nameRune s with
    | none => nofun
    | some p =>
      obtain ⟨w, tf⟩ := p
      cases tf with
      | false => intro h; cases h; exact ⟨rfl, rfl⟩
      | true =>
        intro h
        obtain ⟨k, hk, rfl⟩ := Option.map_eq_some_iff.mp h
        obtain ⟨_, _, ht, hd⟩ := nameRune_true s w hr
        obtain ⟨hkt, hkd⟩ := nameLenU_some fuel _ k hk
        exact ⟨by rw [List.take_add, List.take_add, ht, hd, hkt], by rw [← List.drop_drop, ← List.drop_drop, hd, hkd]⟩

theorem nameLenU_escapePct : ∀ (fuel : Nat) (s : Bytes) (fuel' : Nat), s.length < fuel →
    (escapePct s).length < fuel' → nameLenU fuel' (escapePct s) = nameLenU fuel s
  | 0, _, _, hf, _ => nomatch hf
  | _, _, 0, _, hf' => nomatch hf'
  | fuel + 1, s, fuel' + 1, hf, hf' => by
    rw [nameLenU, nameLenU, nameRune_escapePct]
    cases hr : nameRune s with
    | none => rfl
    | some p =>
      obtain ⟨w, tf⟩ := p
      cases tf with
      | false => rfl
      | true =>
        obtain ⟨hw1, hw2, _, hd⟩ := nameRune_true s w hr
        have hlen := congrArg List.length hd
        have := length_le_escapePct s
        rw [List.length_drop] at hlen
        dsimp only
        rw [hd, nameLenU_escapePct fuel (s.drop w) fuel' (by rw [List.length_drop]; omega) (by omega)]

/-- `rxExtractU` after the optional `{` has been looked at -/
def rxCore (brace : Bool) (s1 : Bytes) : Option (Option (Bytes × Bytes)) :=
  match nameLenU (s1.length + 1) s1 with
  | none => none
  | some n =>
    let name := s1.take n
    if name.isEmpty then some none else
    let r := s1.drop n
    if brace then
      match r with
      | b :: r' => if b == cRBrace then some (some (name, r')) else some none
      | [] => some none
    else some (some (name, r))

/-- `rxExtractU` decides on `{` and goes on behind it; it decides the same way on the escaped text -/
theorem rxExtractU_eq_core (s : Bytes) : ∃ brace s1, s1 <:+ s ∧
    rxExtractU s = rxCore brace s1 ∧ rxExtractU (escapePct s) = rxCore brace (escapePct s1) := by
  cases s with
  | nil => exact ⟨false, [], List.suffix_rfl, rfl, rfl⟩
  | cons b r =>
    by_cases hb : b = cLBrace
    · subst hb
      exact ⟨true, r, List.suffix_cons _ r, rfl, rfl⟩
    · have h : ∀ X, rxExtractU (b :: X) = rxCore false (b :: X) := fun X => by
        unfold rxExtractU rxCore
        dsimp only
        rw [beq_eq_false_iff_ne.mpr hb]; rfl
      refine ⟨false, b :: r, List.suffix_rfl, h r, ?_⟩
      rcases escapePct_cons_cases b r with ⟨rfl, he⟩ | ⟨_, he⟩ <;> rw [he] <;> exact h _

theorem rxCore_some (brace : Bool) (s1 name r : Bytes) :
    rxCore brace s1 = some (some (name, r)) → name ≠ [] ∧ r <:+ s1 := by
  unfold rxCore
  cases nameLenU (s1.length + 1) s1 with
  | none => nofun
  | some n =>
    dsimp only
    cases hemp : (s1.take n).isEmpty with
    | true => nofun
    | false =>
      have hne := List.isEmpty_eq_false_iff.mp hemp
      cases brace with
      | false => intro h; cases h; exact ⟨hne, List.drop_suffix n s1⟩
      | true =>
        cases hr : s1.drop n with
        | nil => nofun
        | cons b r' =>
          dsimp only
          cases b == cRBrace with
          | false => nofun
          | true =>
            intro h; cases h
            exact ⟨hne, (List.suffix_cons b r).trans (hr ▸ List.drop_suffix n s1)⟩

theorem rxExtractU_some {s name r : Bytes} (h : rxExtractU s = some (some (name, r))) :
    name ≠ [] ∧ r <:+ s := by
  obtain ⟨brace, s1, hs, he, _⟩ := rxExtractU_eq_core s
  obtain ⟨hne, hr⟩ := rxCore_some brace s1 name r (he ▸ h)
  exact ⟨hne, hr.trans hs⟩

theorem rxCore_escapePct (brace : Bool) (s1 : Bytes) :
    rxCore brace (escapePct s1) = (rxCore brace s1).map (Option.map fun p => (p.1, escapePct p.2)) := by
  unfold rxCore
  rw [nameLenU_escapePct (s1.length + 1) s1 _ (Nat.lt_succ_self _) (Nat.lt_succ_self _)]
  cases hn : nameLenU (s1.length + 1) s1 with
  | none => rfl
  | some n =>
    obtain ⟨htake, hdrop⟩ := nameLenU_some _ s1 n hn
    dsimp only
    rw [htake, hdrop]
    cases (s1.take n).isEmpty with
    | true => rfl
    | false =>
      cases brace with
      | false => rfl
      | true =>
        cases s1.drop n with
        | nil => rfl
        | cons b r' =>
          rcases escapePct_cons_cases b r' with ⟨rfl, h⟩ | ⟨_, h⟩ <;> rw [h]
          · rfl
          · dsimp only
            cases (b == cRBrace) <;> rfl

theorem rxExtractU_escapePct (s : Bytes) :
    rxExtractU (escapePct s) = (rxExtractU s).map (Option.map fun p => (p.1, escapePct p.2)) := by
  obtain ⟨brace, s1, _, he, he'⟩ := rxExtractU_eq_core s
  rw [he, he']
  exact rxCore_escapePct brace s1

end SE
