import SE.Model.Mapper
/-
What a successful `load` / `loadRule` implies: every validation step passed, as the named fields of `LoadOk` /
`LoadRuleOk`, read off the `do` block one statement at a time (`except_ok_of_bind`, `do_*`). The rejection theorems of
SE/Props/C19.lean are the contrapositives of the single fields.
-/
namespace SE
variable {V : Type}

theorem except_ok_of_bind {ε α β} {x : Except ε α} {f : α → Except ε β} {c : β}
    (h : (x >>= f) = .ok c) : ∃ a, x = .ok a ∧ f a = .ok c := by
  cases x with
  | error e => cases h
  | ok a => exact ⟨a, rfl, h⟩

/-- `if c then throw e` before the rest `k` of the block, as a `do` block in `Except` compiles it -/
theorem do_throw {α : Type} {c : Bool} {e : LoadErr} {k : Unit → Except LoadErr α} {x : α}
    (h : (if c = true then (throw e >>= k) else k ()) = Except.ok x) : c = false ∧ k () = .ok x := by
  cases c
  · exact ⟨rfl, h⟩
  · cases h

/-- `if c then A else B` as the last statement -/
theorem do_if {α : Type} {c : Bool} {A B : Except LoadErr α} {x : α}
    (h : (if c = true then A else B) = Except.ok x) : (c = true ∧ A = .ok x) ∨ (c = false ∧ B = .ok x) := by
  cases c
  · exact Or.inr ⟨rfl, h⟩
  · exact Or.inl ⟨rfl, h⟩

/-- one of two checks, chosen by `g`, before the same continuation: the chosen one passed -/
theorem do_two {α : Type} {g a b : Bool} {e1 e2 : LoadErr} {k : Unit → Except LoadErr α} {x : α}
    (h : (if g = true then (if a = true then (throw e1 >>= k) else k ())
          else (if b = true then (throw e2 >>= k) else k ())) = Except.ok x) :
    (if g = true then a else b) = false ∧ k () = .ok x := by
  cases g <;> exact do_throw h

/-- same continuation on both branches: the branches only choose an argument (a `mut` variable) -/
theorem do_ite_arg {α β : Type} {c : Bool} {a b : β} {k : β → Except LoadErr α} {x : α}
    (h : (if c = true then k a else k b) = Except.ok x) : k (if c = true then a else b) = .ok x := by
  cases c <;> exact h

theorem except_error_of_not_ok {ε α} {x : Except ε α} (h : ∀ a, x ≠ .ok a) : ∃ e, x = .error e := by
  cases x with
  | error e => exact ⟨e, rfl⟩
  | ok a => exact absurd rfl (h a)

theorem Except.ok_unique {ε α} {x : Except ε α} {a b : α} (ha : x = .ok a) (hb : x = .ok b) : a = b :=
  Except.ok.inj (ha.symm.trans hb)

theorem except_ok_of_check {ε α} {x : Except ε α} {p : α → Bool}
    (h : (match x with | .ok a => p a | .error _ => false) = true) : ∃ a, x = .ok a ∧ p a = true := by
  cases x with
  | error e => cases h
  | ok a => exact ⟨a, rfl, h⟩

theorem mapM_ok_map {ε α β} {f : α → Except ε β} :
    ∀ {l : List α} {out : List β}, l.mapM f = .ok out → l.map f = out.map Except.ok
  | [], _, h => by cases h; rfl
  | x :: t, _, h => by
    rw [List.mapM_cons] at h
    obtain ⟨y, hy, h⟩ := except_ok_of_bind h
    obtain ⟨ys, hys, h⟩ := except_ok_of_bind h
    cases h
    rw [List.map_cons, hy, mapM_ok_map hys, List.map_cons]

theorem mapM_ok_all {ε α β} {f : α → Except ε β} {l : List α} {out : List β} (h : l.mapM f = .ok out) {a : α}
    (ha : a ∈ l) : ∃ b, f a = .ok b := by
  obtain ⟨b, _, hb⟩ := List.mem_map.mp (mapM_ok_map h ▸ List.mem_map_of_mem (f := f) ha)
  exact ⟨b, hb.symm⟩

theorem mapM_ok_mem {ε α β} {f : α → Except ε β} {l : List α} {out : List β} (h : l.mapM f = .ok out) {b : β}
    (hb : b ∈ out) : ∃ a, a ∈ l ∧ f a = .ok b :=
  List.mem_map.mp (mapM_ok_map h ▸ List.mem_map_of_mem (f := Except.ok) hb)

theorem decObserverType_unknown (s : Bytes) (h1 : s ≠ strBytes "histogram") (h2 : s ≠ strBytes "summary") (h3 : s ≠ []) :
    decObserverType s = .error .badEnum := by
  unfold decObserverType
  rw [beq_false_of_ne h1, beq_false_of_ne h2, beq_false_of_ne h3]; rfl

theorem decMatchType_unknown (s : Bytes) (h1 : s ≠ strBytes "regex") (h2 : s ≠ strBytes "glob") (h3 : s ≠ []) :
    decMatchType s = .error .badEnum := by
  unfold decMatchType
  rw [beq_false_of_ne h1, beq_false_of_ne h2, beq_false_of_ne h3]; rfl

theorem decAction_unknown (s : Bytes) (h1 : s ≠ strBytes "drop") (h2 : s ≠ strBytes "map") (h3 : s ≠ []) :
    decAction s = .error .badEnum := by
  unfold decAction
  rw [beq_false_of_ne h1, beq_false_of_ne h2, beq_false_of_ne h3]; rfl

theorem decMetricType_unknown (s : Bytes) (h1 : s ≠ strCounter) (h2 : s ≠ strGauge) (h3 : s ≠ strObserver) (h4 : s ≠ strTimer) :
    decMetricType s = .error .badEnum := by
  unfold decMetricType
  rw [beq_false_of_ne h1, beq_false_of_ne h2, beq_false_of_ne h3, beq_false_of_ne h4]; rfl

theorem optDec_error {α} (f : Bytes → Except LoadErr α) (s : Bytes) (e : LoadErr) (h : f s = .error e) :
    optDec f (some s) = .error e := by
  rw [optDec, h]; rfl

theorem optDec_not_ok {α} {f : Bytes → Except LoadErr α} {o : Option Bytes} {s : Bytes} {e : LoadErr} (hs : o = some s)
    (h : f s = .error e) : ¬ ∃ x, optDec f o = .ok x := by
  rintro ⟨x, hx⟩
  rw [hs, optDec_error f s e h] at hx; cases hx

theorem optDec_some_ok {α} (f : Bytes → Except LoadErr α) (s : Bytes) (x : α) (h : f s = .ok x) :
    optDec f (some s) = .ok (some x) := by
  rw [optDec, h]; rfl

/-- the observer type a rule ends up with: its `observer_type`, else its `timer_type`, else the default -/
def effObs (obs0 tim0 : Option ObsTy) (dobs : ObsTy) : ObsTy :=
  match (match obs0 with | some o => some o | none => tim0) with
  | some o => o
  | none => dobs

/-- `summary_options.quantiles` is present -/
def sumQuantSet (r : RawRule V) : Bool := match r.summaryOpts with | some (some _, _) => true | _ => false
/-- `histogram_options.buckets` is present -/
def histBucketsSet (r : RawRule V) : Bool := match r.histOpts with | some (some _) => true | _ => false

/-- `histogram_options.buckets` (`[]` when absent) -/
def rawBuckets (r : RawRule V) : List V := match r.histOpts with | some (some b) => b | _ => []
/-- `summary_options.quantiles` (`[]` when absent) -/
def rawQuantiles (r : RawRule V) : List (V × V) := match r.summaryOpts with | some (some q, _) => q | _ => []
/-- `summary_options.max_age` (0 when absent) -/
def rawMaxAge (r : RawRule V) : Int := match r.summaryOpts with | some (_, a, _, _) => a | none => 0
/-- `summary_options.age_buckets` (0 when absent) -/
def rawAgeB (r : RawRule V) : Nat := match r.summaryOpts with | some (_, _, a, _) => a | none => 0

/-- buckets after the legacy `buckets` key was folded in (histogram-typed rules only) -/
def legacyOrRawBuckets (r : RawRule V) : List V :=
  match r.legacyBuckets with
  | some lb => if !lb.isEmpty then lb else rawBuckets r
  | none => rawBuckets r

/-- quantiles after the legacy `quantiles` key was folded in (summary-typed rules only) -/
def legacyOrRawQuantiles (r : RawRule V) : List (V × V) :=
  match r.legacyQuantiles with
  | some lq => if !lq.isEmpty then lq else rawQuantiles r
  | none => rawQuantiles r

/-- the rule ends up with `HistogramOptions != nil`: it is histogram-typed, or it has `histogram_options` -/
def effHasHist (r : RawRule V) (ot : ObsTy) : Bool := if ot == .histogram then true else r.histOpts.isSome

/-- the effective `HistogramOptions.Buckets` of a rule whose observer type is `ot`, for default buckets `db` -/
def effBuckets (r : RawRule V) (ot : ObsTy) (db : List V) : List V :=
  if ot == .histogram then (if (legacyOrRawBuckets r).isEmpty then db else legacyOrRawBuckets r) else rawBuckets r

/-- the rule ends up with `SummaryOptions != nil` -/
def effHasSum (r : RawRule V) (ot : ObsTy) : Bool := if ot == .summary then true else r.summaryOpts.isSome

def effQuantiles (r : RawRule V) (ot : ObsTy) (dq : List (V × V)) : List (V × V) :=
  if ot == .summary then (if (legacyOrRawQuantiles r).isEmpty then dq else legacyOrRawQuantiles r) else rawQuantiles r

def effMaxAge (r : RawRule V) (ot : ObsTy) (dma : Int) : Int :=
  if ot == .summary then (if rawMaxAge r == 0 then dma else rawMaxAge r) else rawMaxAge r

def effAgeB (r : RawRule V) (ot : ObsTy) (dab : Nat) : Nat :=
  if ot == .summary then (if rawAgeB r == 0 then dab else rawAgeB r) else rawAgeB r

variable [NumOps V]

/-- the option part of a successful `loadRule`: the effective options are the functions above, and they
    passed `validateBuckets` / `validateSummaryOptions` -/
structure RuleOptsFacts (r : RawRule V) (ot : ObsTy) (db : List V) (dq : List (V × V)) (dma : Int) (dab : Nat)
    (rule : Rule V) : Prop where
  observerType : rule.observerType = ot
  hasHistOpts : rule.hasHistOpts = effHasHist r ot
  buckets : rule.buckets = effBuckets r ot db
  hasSummaryOpts : rule.hasSummaryOpts = effHasSum r ot
  quantiles : rule.quantiles = effQuantiles r ot dq
  maxAge : rule.maxAge = effMaxAge r ot dma
  ageBuckets : rule.ageBuckets = effAgeB r ot dab
  bucketsOk : (effHasHist r ot && !strictlyIncreasing (effBuckets r ot db)) = false
  summaryOk : (effHasSum r ot && !summaryOptsOk (effQuantiles r ot dq) (effMaxAge r ot dma) (effAgeB r ot dab)) = false

/-- what `loadRule` checked for a rule whose observer type decodes to `ot` -/
structure ObserverOk (r : RawRule V) (ot : ObsTy) (db : List V) (dq : List (V × V)) (dma : Int) (dab : Nat)
    (rule : Rule V) : Prop where
  histNoSummaryOpts : ot = .histogram → r.summaryOpts.isSome = false
  summaryNoHistOpts : ot = .summary → r.histOpts.isSome = false
  opts : RuleOptsFacts r ot db dq dma dab rule

/-- every validation step of `loadRule`, read off a successful result. The enum fields decode; the checks that depend
    on the match type and on the observer type are stated for whatever those fields decode to. -/
structure LoadRuleOk (rxOk : Bytes → Bool) (dm : MatchTy) (dobs : ObsTy) (db : List V) (dq : List (V × V)) (dma : Int)
    (dab : Nat) (r : RawRule V) (rule : Rule V) : Prop where
  observerType : ∃ x, optDec decObserverType r.observerType = .ok x
  timerType : ∃ x, optDec decObserverType r.timerType = .ok x
  matchType : ∃ x, optDec decMatchType r.matchType = .ok x
  action : ∃ x, optDec decAction r.action = .ok x
  matchMetricType : ∃ x, optDec decMetricType r.matchMetricType = .ok x
  labelKeys : r.labels.all (fun kv => labelNameOk kv.1) = true
  nameNonempty : r.name.isEmpty = false
  nameOk : metricNameOk r.name = true
  quantilesOnce : (r.summaryOpts.isSome && r.legacyQuantiles.isSome && sumQuantSet r) = false
  bucketsOnce : (r.histOpts.isSome && r.legacyBuckets.isSome && histBucketsSet r) = false
  matchOk : ∀ {mt}, optDec decMatchType r.matchType = .ok mt →
    (mt.getD dm = .glob → matchLineOk (splitOn 46 r.matchStr) = true) ∧ (mt.getD dm ≠ .glob → rxOk r.matchStr = true)
  observer : ∀ {obs tim}, optDec decObserverType r.observerType = .ok obs → optDec decObserverType r.timerType = .ok tim →
    ObserverOk r (effObs obs tim dobs) db dq dma dab rule

section
variable {rxOk : Bytes → Bool} {dm : MatchTy} {dobs : ObsTy} {dt : Int} {db : List V} {dq : List (V × V)}
  {dma : Int} {dab dbc : Nat} {r : RawRule V} {rule : Rule V}

theorem loadRule_ok_full (h0 : loadRule rxOk dm dobs dt db dq dma dab dbc r = .ok rule) :
    LoadRuleOk rxOk dm dobs db dq dma dab r rule := by
  unfold loadRule at h0
  obtain ⟨obs0, h1, ha⟩ := except_ok_of_bind h0
  obtain ⟨tim0, h2, hb⟩ := except_ok_of_bind ha
  obtain ⟨mt0, h3, hc⟩ := except_ok_of_bind hb
  obtain ⟨act0, h4, hd⟩ := except_ok_of_bind hc
  obtain ⟨mmt, h5, h⟩ := except_ok_of_bind hd
  -- each is the whole block once more, and every later `cases` would traverse it
  clear h0 ha hb hc hd
  -- The `let`s of the compiled block, the join points of the `mut` variables among them, become local definitions
  -- (equal values are merged: the two `true`). `h` stays small, a step sees through the join point it stands at,
  -- and a join point applied to different values of a `mut` variable is an opaque `k` for `do_ite_arg`.
  extract_lets obsRaw matchType action pat ot _ _ hasHist buckets hasSum quantiles maxAge ageB bufCap _ _ _ _ _ _
    jpA _ jpH1 jpH0 at h
  obtain ⟨c1, h⟩ := do_throw h
  obtain ⟨c2, h⟩ := do_throw h
  obtain ⟨c3, h⟩ := do_throw h
  obtain ⟨m, h⟩ := do_two h
  obtain ⟨c5, h⟩ := do_throw h
  obtain ⟨c6, h⟩ := do_throw h
  -- observer type histogram: `hasHist := true`, legacy buckets, default buckets; the two paths meet again at `jpA`
  obtain ⟨c7, h⟩ : (ot = .histogram → r.summaryOpts.isSome = false) ∧
      jpA () (effHasHist r ot) (effBuckets r ot db) = .ok rule := by
    rcases do_if h with ⟨g, h⟩ | ⟨g, h⟩
    · obtain ⟨c7, h⟩ := do_throw h
      dsimp -zeta only [jpH0] at h
      have h : jpH1 () (legacyOrRawBuckets r) = .ok rule := by
        unfold legacyOrRawBuckets
        split at h
        · rename_i heq; rw [heq]; exact do_ite_arg h
        · rename_i heq; rw [heq]; exact h
      have h := do_ite_arg h
      simp only [effHasHist, effBuckets, g, if_true]
      exact ⟨fun _ => c7, h⟩
    · simp only [effHasHist, effBuckets, g]
      exact ⟨fun e => absurd e (ne_of_beq_false g), h⟩
  -- `-zeta`: the join points inside `jpA` stay `let`s, to be extracted in their turn
  dsimp -zeta only [jpA] at h
  extract_lets jpF jpS2 jpS1 jpS0 at h
  -- observer type summary: `hasSum := true`, legacy quantiles, the defaults for unset options
  obtain ⟨c8, bc, h⟩ : (ot = .summary → r.histOpts.isSome = false) ∧
      ∃ bc, jpF () (effHasSum r ot) (effQuantiles r ot dq) (effMaxAge r ot dma) (effAgeB r ot dab) bc = .ok rule := by
    rcases do_if h with ⟨g, h⟩ | ⟨g, h⟩
    · obtain ⟨c8, h⟩ := do_throw h
      dsimp -zeta only [jpS0] at h
      have h : jpS1 () (legacyOrRawQuantiles r) = .ok rule := by
        unfold legacyOrRawQuantiles
        split at h
        · rename_i heq; rw [heq]; exact do_ite_arg h
        · rename_i heq; rw [heq]; exact h
      have h := do_ite_arg h
      dsimp -zeta only [jpS2] at h
      extract_lets jpM at h
      have h := do_ite_arg h
      dsimp -zeta only [jpM] at h
      extract_lets jpAge at h
      have h := do_ite_arg h
      dsimp -zeta only [jpAge] at h
      have h := do_ite_arg h
      simp only [effHasSum, effQuantiles, effMaxAge, effAgeB, g, if_true]
      refine ⟨fun e => ?_, _, h⟩
      rw [e] at c8
      exact c8
    · simp only [effHasSum, effQuantiles, effMaxAge, effAgeB, g]
      exact ⟨fun e => absurd e (ne_of_beq_false g), _, h⟩
  -- `validateBuckets`, `validateSummaryOptions`
  obtain ⟨k1, h⟩ := do_throw h
  obtain ⟨k2, h⟩ := do_throw h
  exact {
    observerType := ⟨_, h1⟩, timerType := ⟨_, h2⟩, matchType := ⟨_, h3⟩, action := ⟨_, h4⟩, matchMetricType := ⟨_, h5⟩
    labelKeys := by simpa using c1
    nameNonempty := c2
    nameOk := by simpa using c3
    quantilesOnce := c5
    bucketsOnce := c6
    matchOk := fun hmt => by
      cases Except.ok_unique h3 hmt
      exact ⟨fun hg => by simpa [matchType, pat, hg] using m, fun hn => by simpa [matchType, pat, hn] using m⟩
    observer := fun ho ht => by
      cases Except.ok_unique h1 ho
      cases Except.ok_unique h2 ht
      -- `h` equates the record the block returns with `rule` (`cases h` would rewrite every earlier `h` as well)
      exact ⟨c7, c8, Except.ok.inj h ▸ ⟨rfl, rfl, rfl, rfl, rfl, rfl, rfl, k1, k2⟩⟩ }

/-- `bucketsOk` and `summaryOk` in terms of the loaded rule alone -/
theorem loadRule_ok_opts (h : loadRule rxOk dm dobs dt db dq dma dab dbc r = .ok rule) :
    (rule.hasHistOpts = true → strictlyIncreasing rule.buckets = true) ∧
    (rule.hasSummaryOpts = true → summaryOptsOk rule.quantiles rule.maxAge rule.ageBuckets = true) := by
  obtain ⟨obs, ho⟩ := (loadRule_ok_full h).observerType
  obtain ⟨tim, ht⟩ := (loadRule_ok_full h).timerType
  have f := ((loadRule_ok_full h).observer ho ht).opts
  rw [f.hasHistOpts, f.buckets, f.hasSummaryOpts, f.quantiles, f.maxAge, f.ageBuckets]
  exact ⟨fun hh => by simpa [hh] using f.bucketsOk, fun hs => by simpa [hs] using f.summaryOk⟩

end

theorem loadRule_error_of {rxOk : Bytes → Bool} {dm : MatchTy} {dobs : ObsTy} {dt : Int} {db : List V} {dq : List (V × V)}
    {dma : Int} {dab dbc : Nat} {r : RawRule V}
    (h : ∀ rule, loadRule rxOk dm dobs dt db dq dma dab dbc r ≠ .ok rule) :
    ∃ e, loadRule rxOk dm dobs dt db dq dma dab dbc r = .error e := except_error_of_not_ok h

/-- the default observer type `load` computes: the defaults' `observer_type`, else their `timer_type`, else unset -/
def defaultObs (dobs dtim : Option ObsTy) : ObsTy :=
  match dobs with
  | some o => o
  | none => dtim.getD .dflt

omit [NumOps V] in
/-- the defaults' summary options after `MapperConfigDefaults.UnmarshalYAML` (legacy `quantiles` replace an empty
    `summary_options.quantiles` — and with them the whole option set) -/
def defSumOpts (raw : RawConfig V) : RawSummaryOpts V :=
  if raw.defaults.summaryOpts.quantiles.isEmpty && !raw.defaults.legacyQuantiles.isEmpty
  then { quantiles := raw.defaults.legacyQuantiles } else raw.defaults.summaryOpts

omit [NumOps V] in
/-- the defaults' histogram buckets after `MapperConfigDefaults.UnmarshalYAML` -/
def defHistBuckets (raw : RawConfig V) : List V :=
  if raw.defaults.histBuckets.isEmpty && !raw.defaults.legacyBuckets.isEmpty
  then raw.defaults.legacyBuckets else raw.defaults.histBuckets

omit [NumOps V] in
/-- the effective default buckets: the configured ones, else the library's (`prometheus.DefBuckets`) -/
def effDefBuckets (raw : RawConfig V) (db : List V) : List V :=
  if (defHistBuckets raw).isEmpty then db else defHistBuckets raw

omit [NumOps V] in
/-- the effective default quantiles: the configured ones, else the exporter's `defaultQuantiles` -/
def effDefQuantiles (raw : RawConfig V) (dq : List (V × V)) : List (V × V) :=
  if (defSumOpts raw).quantiles.isEmpty then dq else (defSumOpts raw).quantiles

omit [NumOps V] in
theorem defSumOpts_ageBuckets (raw : RawConfig V) :
    (defSumOpts raw).ageBuckets = raw.defaults.summaryOpts.ageBuckets ∨ (defSumOpts raw).ageBuckets = 0 := by
  unfold defSumOpts
  split
  · exact Or.inr rfl
  · exact Or.inl rfl

/-- every step of `load`, read off a successful result, with what the enum fields of the defaults decode to: the
    rules went through `loadRule` with the effective defaults, which passed `validateBuckets` /
    `validateSummaryOptions` and are the defaults of the configuration -/
structure LoadOk (rxOk : Bytes → Bool) (db : List V) (dq : List (V × V)) (raw : RawConfig V) (cfg : Config V)
    (dobs dtim : Option ObsTy) (dmt : Option MatchTy) : Prop where
  observerType : optDec decObserverType raw.defaults.observerType = .ok dobs
  timerType : optDec decObserverType raw.defaults.timerType = .ok dtim
  matchType : optDec decMatchType raw.defaults.matchType = .ok dmt
  rules : raw.rules.mapM (loadRule rxOk (dmt.getD .glob) (defaultObs dobs dtim) raw.defaults.ttl (effDefBuckets raw db)
    (effDefQuantiles raw dq) (defSumOpts raw).maxAge (defSumOpts raw).ageBuckets (defSumOpts raw).bufCap) = .ok cfg.rules
  bucketsOk : strictlyIncreasing (effDefBuckets raw db) = true
  summaryOk : summaryOptsOk (effDefQuantiles raw dq) (defSumOpts raw).maxAge (defSumOpts raw).ageBuckets = true
  dBuckets : cfg.dBuckets = effDefBuckets raw db
  dQuantiles : cfg.dQuantiles = effDefQuantiles raw dq
  dMaxAge : cfg.dMaxAge = (defSumOpts raw).maxAge
  dAgeBuckets : cfg.dAgeBuckets = (defSumOpts raw).ageBuckets
  doFSM : cfg.doFSM = cfg.rules.any (·.matchType == .glob)

section
variable {rxOk : Bytes → Bool} {db : List V} {dq : List (V × V)} {raw : RawConfig V} {cfg : Config V}
  {dobs dtim : Option ObsTy} {dmt : Option MatchTy}

theorem load_ok_inv (h : load rxOk db dq raw = .ok cfg) : ∃ dobs dtim dmt, LoadOk rxOk db dq raw cfg dobs dtim dmt := by
  unfold load at h
  obtain ⟨dobs, h1, h⟩ := except_ok_of_bind h
  obtain ⟨dtim, h2, h⟩ := except_ok_of_bind h
  obtain ⟨dmt, h3, h⟩ := except_ok_of_bind h
  obtain ⟨v1, h⟩ := do_throw h
  obtain ⟨v2, h⟩ := do_throw h
  obtain ⟨rules, h4, h⟩ := except_ok_of_bind h
  cases h
  exact ⟨dobs, dtim, dmt, h1, h2, h3, h4, Bool.not_eq_eq_eq_not.mp v1, Bool.not_eq_eq_eq_not.mp v2, rfl, rfl, rfl, rfl, rfl⟩

theorem LoadOk.rule (L : LoadOk rxOk db dq raw cfg dobs dtim dmt) {r : RawRule V} (hr : r ∈ raw.rules) :
    ∃ rule, LoadRuleOk rxOk (dmt.getD .glob) (defaultObs dobs dtim) (effDefBuckets raw db) (effDefQuantiles raw dq)
      (defSumOpts raw).maxAge (defSumOpts raw).ageBuckets r rule := by
  obtain ⟨rule, hrule⟩ := mapM_ok_all L.rules hr
  exact ⟨rule, loadRule_ok_full hrule⟩

theorem LoadOk.ruleOpts (L : LoadOk rxOk db dq raw cfg dobs dtim dmt) {rule : Rule V} (hm : rule ∈ cfg.rules) :
    (rule.hasHistOpts = true → strictlyIncreasing rule.buckets = true) ∧
    (rule.hasSummaryOpts = true → summaryOptsOk rule.quantiles rule.maxAge rule.ageBuckets = true) := by
  obtain ⟨_, _, hl⟩ := mapM_ok_mem L.rules hm
  exact loadRule_ok_opts hl

theorem load_error_of (hbad : ∀ {cfg dobs dtim dmt}, LoadOk rxOk db dq raw cfg dobs dtim dmt → False) :
    ∃ e, load rxOk db dq raw = .error e :=
  except_error_of_not_ok fun _ h => by
    obtain ⟨_, _, _, L⟩ := load_ok_inv h
    exact hbad L

theorem load_error_of_rule {pre post : List (RawRule V)} {r : RawRule V} (hr : raw.rules = pre ++ r :: post)
    (hbad : ∀ {cfg dobs dtim dmt rule}, LoadOk rxOk db dq raw cfg dobs dtim dmt →
      LoadRuleOk rxOk (dmt.getD .glob) (defaultObs dobs dtim) (effDefBuckets raw db) (effDefQuantiles raw dq)
        (defSumOpts raw).maxAge (defSumOpts raw).ageBuckets r rule → False) :
    ∃ e, load rxOk db dq raw = .error e :=
  load_error_of fun L => by
    obtain ⟨_, A⟩ := L.rule (r := r) (by simp [hr])
    exact hbad L A

end

end SE
