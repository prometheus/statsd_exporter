import SE.Proofs.SuffixFree
/-
The invariant `HelpUniform` (SE/Spec/Registry.lean): all vectors of one metric entry carry the same help string. On a
well-formed registry every `getOrCreate` that returns a registry keeps it: this is what the registry's `helpFor` buys (a
new vector of a known name is created with the help string of the name's first vector, whatever the request says). It
implies the first conjunct of `Reg.gatherOk`: every family has one help string.
-/
set_option linter.unusedSectionVars false
namespace SE
variable {V : Type} [NumOps V]

theorem HelpUniform_empty (pre : List (Bytes × MType × Bytes)) : HelpUniform ({ metrics := [], pre := pre } : Reg V) :=
  fun _ h => by cases h

theorem HelpUniform.entriesOf {r r' : Reg V} (h : HelpUniform r) (hw : r'.EntriesOf r) : HelpUniform r' := by
  intro m' hm'
  obtain ⟨m, hm, _, _, e⟩ := hw m' hm'
  rw [e]; exact h m hm

theorem firstHelp?_of_mem {r : Reg V} (h : HelpUniform r) {name : Bytes} {m : MetricM V} (hf : r.find name = some m)
    {v : VecM V} (hv : v ∈ m.vecs) : r.firstHelp? name = some v.help := by
  obtain ⟨v0, rest, hvs⟩ := List.exists_cons_of_ne_nil (List.ne_nil_of_mem hv)
  exact (firstHelp?_some_iff r name _).mpr
    ⟨m, v0, rest, hf, hvs, h m (mem_of_find hf).1 v0 (hvs ▸ List.mem_cons_self ..) v hv⟩

theorem vecFor_help_of_mem {r : Reg V} (h : HelpUniform r) {ty : MType} {a : GetArgs V} {m : MetricM V}
    (hf : r.find a.name = some m) (he : r.existingVec ty a = none) {v : VecM V} (hv : v ∈ m.vecs) :
    (r.vecFor ty a).help = v.help := by
  rw [Reg.vecFor, he]
  exact congrArg (·.getD a.help) (firstHelp?_of_mem h hf hv)

/-- A new vector gets the help string of the first vector of the entry `find` answers with: by uniformity that of all
    its vectors, by well-formedness the entry stored into. -/
theorem HelpUniform_create {r : Reg V} (hw : RegWF r) (h : HelpUniform r) (ty : MType) (a : GetArgs V) (now : Int) :
    HelpUniform (r.create ty a now) := by
  intro m' hm' v hv w hw'
  rcases mem_create hm' with ⟨hm, _⟩ | ⟨m, hm, hn, e⟩
  · exact h m' hm v hv w hw'
  subst e
  -- the entry stored into: a registered one (then it is what `find` answers) or the fresh one without vectors
  have hold : (∀ x, x ∈ m.vecs → ∀ y, y ∈ m.vecs → x.help = y.help) ∧
      (r.existingVec ty a = none → ∀ x, x ∈ m.vecs → (r.vecFor ty a).help = x.help) := by
    rcases hm with hm0 | ⟨e, _⟩
    · exact ⟨h m hm0, fun he x hx => vecFor_help_of_mem h (hn ▸ hw.find_of_mem hm0) he hx⟩
    · subst e; exact ⟨nofun, fun _ => nofun⟩
  rcases mem_storeIn_vecs.mp hv with hv | ⟨he, hv⟩ <;> rcases mem_storeIn_vecs.mp hw' with hw' | ⟨he', hw'⟩
  · exact hold.1 v hv w hw'
  · rw [hw']; exact (hold.2 he' v hv).symm
  · rw [hv]; exact hold.2 he w hw'
  · rw [hv, hw']

theorem HelpUniform_getOrCreate {r r' : Reg V} {ty : MType} {a : GetArgs V} {now : Int} (hw : RegWF r)
    (h : HelpUniform r) (hg : r.getOrCreate ty a now = .ok (.ok r')) : HelpUniform r' := by
  rcases getOrCreate_ok_cases hg with ⟨_, e⟩ | ⟨_, _, _, _, _, e⟩
  · subst e; exact h.entriesOf (entriesOf_touch r a now)
  · subst e; exact HelpUniform_create hw h ty a now

theorem HelpUniform_steps (rx : Rx) :
    StepInv rx (fun _ => True) (fun p : Pipe V => RegWF p.reg ∧ HelpUniform p.reg) (fun _ => True) :=
  StepInv.ofRegWF (fun hw hh _ hg => HelpUniform_getOrCreate hw hh hg)
    (fun _ hh => hh.entriesOf (entriesOf_updateSeries _ _ _ _)) (fun r now hh => hh.entriesOf (entriesOf_sweep r now))

theorem HelpUniform_runOps (rx : Rx) (ops : List (PipeOp V)) {p p' : Pipe V} (hw : RegWF p.reg) (hh : HelpUniform p.reg)
    (h : runOps rx p ops = some (.ok p')) : HelpUniform p'.reg :=
  (((HelpUniform_steps rx).runOps ops p (fun _ _ => trivial) ⟨hw, hh⟩).ok h).2

theorem live_helpConsistent_of_helpUniform {r : Reg V} (h : HelpUniform r) :
    (r.metrics.filter (!·.series.isEmpty)).all helpConsistent = true :=
  List.all_eq_true.mpr fun m hm => helpConsistent_of_vecs (h m (List.mem_filter.mp hm).1)

end SE
