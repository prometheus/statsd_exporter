import SE.Proofs.Scrape
/-
C01, per kind: the own events of a series all have the type of its metric, so the fold of its own updates
is the fold of one update function (`typeUpd`) over their values; closed forms of that fold for
`counter.Add`, gauge `Set`/`Add` and `Observe`, field by field (`List.foldl_hom`).
-/
set_option linter.unusedSectionVars false
namespace SE
open NumOps
variable {V : Type} [NumOps V]

section
variable {rx : Rx} {evs : List (Ev V × Labels)} {p p' : Pipe V} {name : Bytes} {L : Labels}

theorem ownUpds_touches (h : runEvs rx p evs = some (.ok p')) (name : Bytes) (L : Labels) :
    ownUpds name L (touches rx p evs) = (ownEvents name L (trace rx p evs)).map (evUpd p rx) := by
  unfold ownUpds ownEvents touches
  rw [List.filter_map, List.map_map, List.map_map]
  exact List.map_congr_left fun et het => (trace_spec h et (List.mem_filter.mp het).1).2

theorem mem_ownEvents {tr : List (Ev V × Touch V)} {ev : Ev V} (h : ev ∈ ownEvents name L tr) :
    ∃ t, (ev, t) ∈ tr ∧ t.name = name ∧ t.labels = L := by
  simp only [ownEvents, List.mem_map, List.mem_filter, addresses_iff] at h
  obtain ⟨⟨_, t⟩, ⟨hm, ha⟩, rfl⟩ := h
  exact ⟨t, hm, ha⟩

def MType.kind : MType → EvKind
  | .counter => .counter
  | .gauge => .gauge
  | _ => .observer

def typeUpd (ty : MType) (rel : Bool) (x : V) (vec : VecM V) (s : Series V) : Series V :=
  match ty with
  | .counter => counterAdd s x
  | .gauge => { s with f := gaugeStep s.f (rel, x) }
  | ty => observe vec (ty == .histogram) s x

theorem evUpd_eq_typeUpd (p : Pipe V) (rx : Rx) (ev : Ev V) :
    evUpd p rx ev = typeUpd (evType p rx ev) ev.relative (evValue p rx ev) ∧
    ev.kind = (evType p rx ev).kind := by
  unfold evUpd evType
  cases ev.kind
  · exact ⟨rfl, rfl⟩
  · refine ⟨?_, rfl⟩
    funext _ s
    cases ev.relative <;> rfl
  · cases evObsTy p rx ev == ObsTy.histogram <;> exact ⟨rfl, rfl⟩

theorem series_typeFold (hw : RegWF p.reg) (hrun : runEvs rx p evs = some (.ok p')) {s : Series V}
    (hs : p'.reg.series? name L = some s) {ty : MType} (hty : p'.reg.type? name = some ty) :
    ∃ vec, p'.reg.vec? name (L.map (·.1)) = some vec ∧
      (∀ ev ∈ ownEvents name L (trace rx p evs), ev.kind = ty.kind) ∧
      ∀ start : Series V, start.sameValue ((p.reg.series? name L).getD (zeroSeries ty vec L)) →
        s.sameValue ((ownEvents name L (trace rx p evs)).foldl
          (fun s ev => typeUpd ty ev.relative (evValue p rx ev) vec s) start) := by
  obtain ⟨ty', vec, hty', hvec, hfold⟩ := fold_series hw hrun hs
  cases hty.symm.trans hty'
  -- every own event asks for the type its metric has at the end, and that type determines update and kind
  have hown : ∀ ev ∈ ownEvents name L (trace rx p evs),
      evUpd p rx ev = typeUpd ty ev.relative (evValue p rx ev) ∧ ev.kind = ty.kind := by
    intro ev hev
    obtain ⟨t, hm, hn, _⟩ := mem_ownEvents hev
    have h2 := (touched_exists hrun t (List.mem_map.mpr ⟨(ev, t), hm, rfl⟩)).2
    rw [hn, hty, (trace_spec hrun (ev, t) hm).1] at h2
    injection h2 with h2
    exact h2 ▸ evUpd_eq_typeUpd p rx ev
  refine ⟨vec, hvec, fun ev hev => (hown ev hev).2, fun start h => ?_⟩
  have hval := hfold start h
  rw [ownUpds_touches hrun, List.map_congr_left fun ev hev => (hown ev hev).1, specSeries, List.foldl_map] at hval
  exact hval

end

theorem counterFold_f (s0 : Series V) (vs : List V) :
    (counterFold s0 vs).f = sumFrom s0.f (vs.filter fun v => !intPath v) := by
  unfold sumFrom counterFold
  rw [List.foldl_filter]
  exact (List.foldl_hom Series.f fun s v => by unfold counterAdd intPath; cases toUInt64Exact v <;> rfl).symm

theorem counterFold_bk (s0 : Series V) (vs : List V) : (counterFold s0 vs).bk = s0.bk :=
  List.foldlRecOn (motive := fun s => s.bk = s0.bk) vs counterAdd rfl fun s hs v _ => by
    rw [← hs]; unfold counterAdd; split <;> rfl

theorem counterFold_n_foldl (s0 : Series V) (vs : List V) :
    (counterFold s0 vs).n = (vs.filterMap toUInt64Exact).foldl (fun n k => (n + k) % two64) s0.n := by
  unfold counterFold
  rw [List.foldl_filterMap]
  exact (List.foldl_hom Series.n fun s v => by unfold counterAdd; cases toUInt64Exact v <;> rfl).symm

theorem foldl_addmod (m : Nat) (ks : List Nat) : ∀ n : Nat,
    (ks.foldl (fun n k => (n + k) % m) n) % m = (n + ks.sum) % m := by
  induction ks with
  | nil => intro n; simp
  | cons k ks ih => intro n; rw [List.foldl_cons, ih, List.sum_cons, Nat.mod_add_mod, Nat.add_assoc]

theorem counterFold_n_mod (s0 : Series V) (vs : List V) :
    (counterFold s0 vs).n % two64 = (s0.n + (vs.filterMap toUInt64Exact).sum) % two64 := by
  rw [counterFold_n_foldl, foldl_addmod]

theorem counterFold_n (s0 : Series V) (vs : List V) (h : s0.n < two64) :
    (counterFold s0 vs).n = (s0.n + (vs.filterMap toUInt64Exact).sum) % two64 := by
  rw [← counterFold_n_mod, Nat.mod_eq_of_lt]
  rw [counterFold_n_foldl]
  exact List.foldlRecOn (motive := (· < two64)) _ _ h fun _ _ _ _ => Nat.mod_lt _ (by decide)

theorem counterFold_no_int (s0 : Series V) (vs : List V) (h : ∀ v ∈ vs, toUInt64Exact v = none) :
    (counterFold s0 vs).f = sumFrom s0.f vs ∧ (counterFold s0 vs).n = s0.n := by
  rw [counterFold_f, counterFold_n_foldl, List.filterMap_eq_nil_iff.mpr h,
    List.filter_eq_self.mpr fun v hv => by simp [intPath, h v hv]]
  exact ⟨rfl, rfl⟩

theorem gaugeFold_eq {α : Type} (vec : VecM V) (op : α → Bool × V) (xs : List α) (s0 : Series V) :
    xs.foldl (fun s x => typeUpd .gauge (op x).1 (op x).2 vec s) s0 = { s0 with f := gaugeSpec (xs.map op) s0.f } := by
  induction xs generalizing s0 with
  | nil => rfl
  | cons x xs ih => rw [List.foldl_cons, ih]; rfl

theorem gaugeSpec_append (xs ys : List (Bool × V)) (v0 : V) :
    gaugeSpec (xs ++ ys) v0 = gaugeSpec ys (gaugeSpec xs v0) := by
  unfold gaugeSpec; rw [List.foldl_append]

theorem gaugeSpec_relative (deltas : List (Bool × V)) (v0 : V) (h : ∀ d ∈ deltas, d.1 = true) :
    gaugeSpec deltas v0 = sumFrom v0 (deltas.map (·.2)) := by
  unfold gaugeSpec sumFrom
  rw [List.foldl_map]
  exact List.foldl_rel (r := Eq) rfl fun d hd a _ e => by rw [← e, gaugeStep, if_pos (h d hd)]

theorem gaugeSpec_last_absolute (pre deltas : List (Bool × V)) (a v0 : V) (h : ∀ d ∈ deltas, d.1 = true) :
    gaugeSpec (pre ++ (false, a) :: deltas) v0 = sumFrom a (deltas.map (·.2)) := by
  rw [gaugeSpec_append]
  exact gaugeSpec_relative deltas a h

theorem bumpAt_eq_modify (bk : List Nat) : ∀ j, bumpAt bk j = bk.modify j (· + 1) := by
  induction bk with
  | nil => intro j; cases j <;> rfl
  | cons x xs ih =>
    intro j
    cases j with
    | zero => rfl
    | succ j => rw [bumpAt, ih, List.modify_succ_cons]

theorem bumpAll_length (is : List Nat) (bk : List Nat) : (bumpAll bk is).length = bk.length :=
  List.foldlRecOn (motive := fun b => b.length = bk.length) is bumpAt rfl fun b hb i _ => by
    rw [bumpAt_eq_modify, List.length_modify, hb]

theorem bumpAll_getElem? (is : List Nat) : ∀ (bk : List Nat) (i : Nat),
    (bumpAll bk is)[i]? = (bk[i]?).map fun c => c + is.count i := by
  induction is with
  | nil => intro bk i; simp [bumpAll]
  | cons j is ih =>
    intro bk i
    rw [bumpAll, List.foldl_cons, ← bumpAll, ih, bumpAt_eq_modify, List.getElem?_modify]
    cases bk[i]? with
    | none => rfl
    | some c =>
      simp only [Option.map_eq_map, Option.map_some, List.count_cons, beq_iff_eq]
      split <;> simp only [Option.some.injEq] <;> omega

theorem observeFold_spec (vec : VecM V) (b : Bool) (s0 : Series V) (xs : List V) :
    (observeFold vec b s0 xs).n = s0.n + xs.length ∧
    (observeFold vec b s0 xs).f = sumFrom s0.f xs ∧
    (observeFold vec b s0 xs).bk =
      (if b then bumpAll s0.bk (xs.map (bucketIndex (effBounds vec.bounds))) else s0.bk) := by
  unfold observeFold
  refine ⟨?_, (List.foldl_hom Series.f fun _ _ => rfl).symm, ?_⟩
  · rw [← Nat.one_mul xs.length, ← List.foldl_add_const]
    exact (List.foldl_hom Series.n fun _ _ => rfl).symm
  · cases b
    · exact List.foldlRecOn (motive := fun s : Series V => s.bk = s0.bk) xs _ rfl fun s hs _ _ => hs
    · unfold bumpAll
      rw [List.foldl_map]
      exact (List.foldl_hom Series.bk fun _ _ => rfl).symm

theorem observeFold_bucket (vec : VecM V) (s0 : Series V) (xs : List V) (i : Nat) :
    (observeFold vec true s0 xs).bk[i]? =
      (s0.bk[i]?).map fun c => c + xs.countP fun x => bucketIndex (effBounds vec.bounds) x == i := by
  rw [(observeFold_spec vec true s0 xs).2.2, if_pos rfl, bumpAll_getElem?, List.count_eq_countP, List.countP_map]
  rfl

/-! #### every observation lands in one of the `len + 1` buckets -/

theorem goSearch_le (f : Nat → Bool) : ∀ (fuel i j : Nat), i ≤ j → goSearch f fuel i j ≤ j := by
  intro fuel
  induction fuel with
  | zero => intro i j h; exact h
  | succ fuel ih =>
    intro i j h
    rw [goSearch]
    by_cases hlt : i < j
    · have hm : i ≤ (i + j) / 2 ∧ (i + j) / 2 < j := by omega
      rw [if_pos hlt]
      dsimp only
      cases f ((i + j) / 2)
      · exact ih _ _ hm.2
      · exact Nat.le_trans (ih _ _ hm.1) (Nat.le_of_lt hm.2)
    · rw [if_neg hlt]; exact h

theorem bucketIndex_le (bounds : List V) (v : V) : bucketIndex bounds v ≤ bounds.length := by
  unfold bucketIndex
  split
  · rename_i first last _ _
    by_cases h1 : le v first = true
    · rw [if_pos h1]; exact Nat.zero_le _
    rw [if_neg h1]
    by_cases h2 : lt last v = true
    · rw [if_pos h2]; exact Nat.le_refl _
    rw [if_neg h2]
    by_cases h3 : bounds.length < 35
    · rw [if_pos h3]
      cases hi : bounds.findIdx? (fun b => le v b) with
      | none => exact Nat.le_refl _
      | some i => exact Nat.le_of_lt (List.findIdx?_eq_some_iff_getElem.mp hi).1
    · rw [if_neg h3]; exact goSearch_le _ _ _ _ (Nat.zero_le _)
  · exact Nat.zero_le _

theorem bumpAt_sum (bk : List Nat) : ∀ j, j < bk.length → (bumpAt bk j).sum = bk.sum + 1 := by
  induction bk with
  | nil => intro j h; exact absurd h (Nat.not_lt_zero j)
  | cons x xs ih =>
    intro j h
    cases j with
    | zero => rw [bumpAt, List.sum_cons, List.sum_cons, Nat.add_right_comm]
    | succ j => rw [bumpAt, List.sum_cons, List.sum_cons, ih j (Nat.lt_of_succ_lt_succ h), Nat.add_assoc]

theorem bumpAll_sum (is : List Nat) : ∀ bk : List Nat, (∀ i ∈ is, i < bk.length) →
    (bumpAll bk is).sum = bk.sum + is.length := by
  induction is with
  | nil => intro bk _; rfl
  | cons i is ih =>
    intro bk h
    rw [bumpAll, List.foldl_cons, ← bumpAll,
      ih _ (by intro k hk; rw [bumpAt_eq_modify, List.length_modify]; exact h k (List.mem_cons_of_mem _ hk)),
      bumpAt_sum _ _ (h i List.mem_cons_self)]
    simp only [List.length_cons]; omega

theorem observeFold_bk_length (vec : VecM V) (s0 : Series V) (xs : List V) :
    (observeFold vec true s0 xs).bk.length = s0.bk.length := by
  rw [(observeFold_spec vec true s0 xs).2.2, if_pos rfl]
  exact bumpAll_length _ _

theorem observeFold_bucket_total (vec : VecM V) (s0 : Series V) (xs : List V)
    (hlen : s0.bk.length = (effBounds vec.bounds).length + 1) :
    (observeFold vec true s0 xs).bk.sum = s0.bk.sum + xs.length := by
  rw [(observeFold_spec vec true s0 xs).2.2, if_pos rfl, bumpAll_sum, List.length_map]
  intro i hi
  obtain ⟨x, _, rfl⟩ := List.mem_map.mp hi
  have := bucketIndex_le (effBounds vec.bounds) x
  omega

end SE
