import SE.Util
/-
`String.toList` on ASCII strings, byte by byte. The kernel evaluates `String.toList` of a literal by UTF-8 decoding
with proofs attached and needs some 100 ms for 30 characters; reading the characters off the bytes is several
times cheaper (used for the access table of C20, SE/Proofs/AccessTable.lean).
-/
namespace SE

theorem utf8EncodeChar_ascii {c : Char} (h : ∀ b ∈ String.utf8EncodeChar c, b < 128) :
    String.utf8EncodeChar c = [UInt8.ofNat c.toNat] ∧ c.toNat < 128 := by
  unfold String.utf8EncodeChar at h ⊢
  dsimp only [Char.toNat] at h ⊢
  by_cases h1 : c.val.toNat ≤ 0x7f
  · rw [if_pos h1]; exact ⟨rfl, by omega⟩
  · exfalso
    -- the first byte of a longer encoding is at least 0xc0
    have hb : ∀ n : Nat, 0xc0 ≤ n → n < 256 → ¬ UInt8.ofNat n < 128 := by
      intro n h1 h2 h3
      rw [UInt8.lt_iff_toNat_lt, UInt8.toNat_ofNat', Nat.mod_eq_of_lt h2] at h3
      exact absurd (Nat.le_trans h1 (Nat.le_of_lt h3)) (by decide)
    rw [if_neg h1] at h
    by_cases h2 : c.val.toNat ≤ 0x7ff
    · rw [if_pos h2] at h
      exact hb _ (by omega) (by omega) (h _ (List.mem_cons_self ..))
    rw [if_neg h2] at h
    by_cases h3 : c.val.toNat ≤ 0xffff
    · rw [if_pos h3] at h
      exact hb _ (by omega) (by omega) (h _ (List.mem_cons_self ..))
    rw [if_neg h3] at h
    exact hb _ (by omega) (by omega) (h _ (List.mem_cons_self ..))

theorem chars_of_ascii_bytes (l : List Char) (h : ∀ b ∈ l.flatMap String.utf8EncodeChar, b < 128) :
    l = (l.flatMap String.utf8EncodeChar).map fun b => Char.ofNat b.toNat := by
  induction l with
  | nil => rfl
  | cons c l ih =>
    simp only [List.flatMap_cons, List.mem_append] at h
    obtain ⟨hc, hlt⟩ := utf8EncodeChar_ascii fun b hb => h b (Or.inl hb)
    rw [List.flatMap_cons, hc, List.singleton_append, List.map_cons, ← ih fun b hb => h b (Or.inr hb),
      UInt8.toNat_ofNat', Nat.mod_eq_of_lt (by omega), Char.ofNat_toNat]

def utf8 (s : String) : Bytes := s.toByteArray.data.toList

theorem utf8_eq (s : String) : utf8 s = s.toList.flatMap String.utf8EncodeChar := by
  rw [utf8, ← String.utf8Encode_toList, List.utf8Encode, List.toList_data_toByteArray]

def asciiChars (s : String) : List Char :=
  if (utf8 s).all (· < 128) then (utf8 s).map fun b => Char.ofNat b.toNat else s.toList

theorem toList_eq_asciiChars (s : String) : s.toList = asciiChars s := by
  unfold asciiChars
  split
  · rename_i h
    rw [utf8_eq] at h ⊢
    exact chars_of_ascii_bytes _ fun b hb => by simpa using List.all_eq_true.mp h b hb
  · rfl

end SE
