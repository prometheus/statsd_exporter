import SE.Spec.Escape
import SE.Proofs.Utf8
/-
C15. `run_spec`: the loop of `EscapeMetricName`, with its lazy `escaped`/`offset` bookkeeping, emits rune by rune
what `specBody` emits; the invariant is `EscInv`, and what has been emitted (`outOf`) is the bytes written so far
followed by the slice still pending. The rest are facts about the specification: its output is a legal name, keeps
the letters and digits of the input, and is the input itself where that is legal.
-/
namespace SE

def outOf (pre : Bytes) (s : EscSt) : Bytes := s.sb ++ pre.drop s.offset

structure EscInv (pre : Bytes) (s : EscSt) : Prop where
  i : s.i = pre.length
  le : s.offset ≤ s.i
  lazy : s.escaped = false → s.sb = [] ∧ s.offset = 0
  pd : s.prevDash = true → s.escaped = true ∧ s.offset = s.i

theorem slice_prefix (pre rest : Bytes) (a : Nat) (h : a ≤ pre.length) :
    slice (pre ++ rest) a pre.length = some (pre.drop a) := by
  simp [slice, h, List.drop_append_of_le_length h]

theorem dash_w (t : Tok) (h : t.cls = .dash) : t.w = 1 := by
  unfold Tok.cls at h
  split at h
  · next heq => exact congrArg List.length heq
  · cases h

/-- One iteration. Both sides keep `specBody` of the runes that follow, so that the branches of `stepTok` meet
    those of `specBody` without a function for what a single rune emits. -/
theorem stepTok_spec {inp pre rest : Bytes} {s : EscSt} (hinp : inp = pre ++ rest) (hJ : EscInv pre s)
    (t : Tok) (ts : List Tok) :
    ∃ s1, stepTok inp s t = some s1 ∧ EscInv (pre ++ t.bytes) s1 ∧
      outOf (pre ++ t.bytes) s1 ++ specBody s1.prevDash ts = outOf pre s ++ specBody s.prevDash (t :: ts) := by
  obtain ⟨off, i, esc, sb, pd⟩ := s
  obtain ⟨rfl, hle, hlazy, hpd⟩ := hJ
  subst hinp
  dsimp only at hle hlazy hpd ⊢
  have hlen : pre.length + t.w = (pre ++ t.bytes).length := (List.length_append ..).symm
  rw [stepTok, specBody]
  cases hc : t.cls with
  | ok =>
    exact ⟨_, rfl, ⟨hlen, Nat.le_add_right_of_le hle, hlazy, nofun⟩,
      by simp [outOf, List.drop_append_of_le_length hle]⟩
  | dash =>
    cases pd with
    | true =>
      -- nothing is pending after a dash (`hpd`), so moving `offset` past this one loses nothing
      obtain ⟨rfl, rfl⟩ := hpd rfl
      have hw : t.w = 1 := dash_w t hc
      exact ⟨_, rfl, ⟨hlen, by simp [hw], nofun, fun _ => ⟨rfl, by simp [hw]⟩⟩, by simp [outOf, ← hw, Tok.w]⟩
    | false =>
      rw [slice_prefix pre rest off hle]
      exact ⟨_, rfl, ⟨hlen, Nat.le_refl _, nofun, fun _ => ⟨rfl, rfl⟩⟩, by simp [outOf, Tok.w]⟩
  | other =>
    rw [slice_prefix pre rest off hle]
    exact ⟨_, rfl, ⟨hlen, Nat.le_refl _, nofun, fun _ => ⟨rfl, rfl⟩⟩, by simp [outOf, Tok.w]⟩

theorem run_spec (inp : Bytes) (ts : List Tok) : ∀ (pre : Bytes) (s : EscSt), inp = pre ++ flat ts → EscInv pre s →
    ∃ s', runToks inp s ts = some s' ∧ EscInv inp s' ∧ outOf inp s' = outOf pre s ++ specBody s.prevDash ts := by
  induction ts with
  | nil =>
    intro pre s hinp hJ
    rw [hinp, flat, List.flatMap_nil, List.append_nil]
    exact ⟨s, rfl, hJ, (List.append_nil _).symm⟩
  | cons t ts ih =>
    intro pre s hinp hJ
    obtain ⟨s1, hstep, hJ1, hout1⟩ := stepTok_spec hinp hJ t ts
    obtain ⟨s', hrun, hJ', hout⟩ := ih _ s1 (by rw [hinp, List.append_assoc]; rfl) hJ1
    exact ⟨s', by rw [runToks, hstep]; exact hrun, hJ', by rw [hout, hout1]⟩

theorem escapeToks_eq_spec (inp : Bytes) (ts : List Tok) (h : flat ts = inp) :
    escapeToks inp ts = some (specEscapeToks ts) := by
  unfold escapeToks specEscapeToks
  rw [h]
  cases inp with
  | nil => rfl
  | cons b0 rest =>
    obtain ⟨s', hrun, hJ', hout⟩ := run_spec (b0 :: rest) ts []
      ⟨0, 0, isDigit b0, if isDigit b0 then [us] else [], false⟩ h.symm
      ⟨rfl, Nat.le_refl 0, fun h => by rw [show isDigit b0 = false from h]; exact ⟨rfl, rfl⟩, nofun⟩
    simp only [outOf, List.drop_nil, List.append_nil] at hout
    simp only [hrun, ← hout]
    -- whichever way the three-way exit goes, the result is `s'.sb ++ inp[s'.offset:]`
    cases he : s'.escaped with
    | false =>
      obtain ⟨hsb, hoff⟩ := hJ'.lazy he
      simp [hsb, hoff]
    | true =>
      rw [Bool.not_true, if_neg Bool.false_ne_true]
      split
      · rfl
      · rw [List.drop_eq_nil_of_le (Nat.le_of_not_lt ‹_›), List.append_nil]

theorem ok_bytes (t : Tok) (h : t.cls = .ok) : ∃ b, t.bytes = [b] ∧ isNameByte b = true := by
  unfold Tok.cls at h
  split at h
  · next b heq =>
    refine ⟨b, heq, Decidable.by_contra fun hb => ?_⟩
    rw [if_neg hb] at h
    split at h <;> cases h
  · cases h

theorem us_name : isNameByte us = true := by decide
theorem us_not_digit : isDigit us = false := by decide

theorem specEscape_cons (b0 : UInt8) (rest : Bytes) :
    specEscape (b0 :: rest) = (if isDigit b0 then [us] else []) ++ specBody false (tokens (b0 :: rest)) := by
  unfold specEscape specEscapeToks
  rw [flat_tokens]

theorem specBody_all_name : ∀ (ts : List Tok) (pd : Bool), (specBody pd ts).all isNameByte = true := by
  intro ts
  induction ts with
  | nil => exact fun _ => rfl
  | cons t ts ih =>
    intro pd
    rw [specBody]
    cases hc : t.cls with
    | ok =>
      obtain ⟨b, hb, hn⟩ := ok_bytes t hc
      simp [hb, hn, ih]
    | dash => cases pd <;> simp [us_name, ih]
    | other => simp [us_name, ih]

theorem spec_legal_toks (ts : List Tok) (h : flat ts ≠ []) : legalName (specEscapeToks ts) = true := by
  unfold specEscapeToks
  split
  · next heq => exact absurd heq h
  · next b0 rest heq =>
    by_cases hd : isDigit b0 = true
    · simp [hd, legalName, us_name, us_not_digit, specBody_all_name]
    · simp only [hd, Bool.false_eq_true, ↓reduceIte, List.nil_append]
      cases ts with
      | nil => cases heq
      | cons t ts =>
        cases hc : t.cls with
        | ok =>
          -- the first rune is the byte `b0`, a name byte and no digit
          obtain ⟨b, hb, hn⟩ := ok_bytes t hc
          obtain rfl : b = b0 := by rw [flat_cons, hb] at heq; exact (List.cons.inj heq).1
          simp [specBody, hc, hb, legalName, hn, hd, specBody_all_name]
        | dash | other => simp [specBody, hc, legalName, us_name, us_not_digit, specBody_all_name]

theorem legal_specEscape (inp : Bytes) (h : inp ≠ []) : legalName (specEscape inp) = true :=
  spec_legal_toks (tokens inp) (by rw [flat_tokens]; exact h)

/-- a rune that is not a name byte holds no name byte (true of every token `tokens` cuts: `tokens_wf`) -/
def TokWF (t : Tok) : Prop := t.cls ≠ .ok → ∀ b ∈ t.bytes, isNameByte b = false

theorem name_lt_80 (b : UInt8) (h : isNameByte b = true) : b < 0x80 := by
  simp [isNameByte] at h
  rcases h with ((h | h) | h) | h
  · exact UInt8.lt_of_le_of_lt h.2 (by decide)
  · exact UInt8.lt_of_le_of_lt h.2 (by decide)
  · exact UInt8.lt_of_le_of_lt h.2 (by decide)
  · subst h; decide

theorem tokWF_of_take (b0 : UInt8) (bs : Bytes) (v : Bool) :
    TokWF ⟨(b0 :: bs).take (runeWidth (b0 :: bs)).1, v⟩ := by
  intro hc b hb
  rcases runeWidth_cases (b0 :: bs) with h1 | hge
  · -- one byte: a name byte would take the "valid character" branch
    rw [h1] at hb hc
    rw [List.mem_singleton.mp hb]
    cases hn : isNameByte b0 with
    | false => rfl
    | true => exact absurd (by simp [Tok.cls, hn]) hc
  · exact Bool.eq_false_iff.mpr fun hn => absurd (name_lt_80 b hn) (UInt8.not_lt.mpr (hge b hb))

theorem tokens_wf (fuel : Nat) (bs : Bytes) : ∀ t ∈ tokensFuel fuel bs, TokWF t := by
  fun_induction tokensFuel fuel bs with
  | case1 | case2 => nofun
  | case3 n b bs w ih =>
    intro t ht
    rcases List.mem_cons.mp ht with rfl | ht
    · exact tokWF_of_take b bs _
    · exact ih t ht

def isAlnum (b : UInt8) : Bool := (97 ≤ b && b ≤ 122) || (65 ≤ b && b ≤ 90) || (48 ≤ b && b ≤ 57)

theorem us_not_alnum : isAlnum us = false := by decide

theorem alnum_name (b : UInt8) (h : isAlnum b = true) : isNameByte b = true := by
  unfold isAlnum at h
  unfold isNameByte
  rw [h]; rfl

theorem specBody_filter_alnum : ∀ (ts : List Tok) (pd : Bool), (∀ t ∈ ts, TokWF t) →
    (specBody pd ts).filter isAlnum = (flat ts).filter isAlnum := by
  intro ts
  induction ts with
  | nil => exact fun _ _ => rfl
  | cons t ts ih =>
    intro pd hwf
    have ih := fun pd => ih pd fun t' h => hwf t' (List.mem_cons_of_mem _ h)
    have hnone : t.cls ≠ .ok → t.bytes.filter isAlnum = [] := fun hc =>
      List.filter_eq_nil_iff.mpr fun b hb hal =>
        Bool.false_ne_true ((hwf t (List.mem_cons_self ..) hc b hb).symm.trans (alnum_name b hal))
    rw [specBody, flat_cons, List.filter_append]
    cases hc : t.cls with
    | ok => simp [ih]
    | dash => cases pd <;> simp [ih, hnone (hc ▸ nofun), us_not_alnum]
    | other => simp [ih, hnone (hc ▸ nofun), us_not_alnum]

theorem specEscape_filter_alnum (inp : Bytes) : (specEscape inp).filter isAlnum = inp.filter isAlnum := by
  cases inp with
  | nil => rfl
  | cons b0 rest =>
    rw [specEscape_cons, List.filter_append, specBody_filter_alnum (tokens _) _ (tokens_wf _ _), flat_tokens]
    cases isDigit b0 <;> simp [us_not_alnum]

theorem tokensFuel_ascii (fuel : Nat) (bs : Bytes) (h : bs.length ≤ fuel) (hall : ∀ b ∈ bs, b < 0x80) :
    tokensFuel fuel bs = bs.map (fun b => ⟨[b], true⟩) := by
  fun_induction tokensFuel fuel bs with
  | case1 bs => rw [List.eq_nil_of_length_eq_zero (Nat.le_zero.mp h)]; rfl
  | case2 => rfl
  | case3 n b bs w ih =>
    have hw : runeWidth (b :: bs) = (1, true) := runeWidth_ascii bs (hall b (List.mem_cons_self ..))
    simp only [w, hw] at ih ⊢
    exact congrArg _ (ih (Nat.le_of_succ_le_succ h) fun b' h' => hall b' (List.mem_cons_of_mem _ h'))

theorem specBody_ok_map : ∀ (bs : Bytes) (pd : Bool), (bs.all isNameByte = true) →
    specBody pd (bs.map (fun b => ⟨[b], true⟩)) = bs := by
  intro bs
  induction bs with
  | nil => exact fun _ _ => rfl
  | cons b bs ih =>
    intro pd h
    rw [List.all_cons, Bool.and_eq_true] at h
    have : (⟨[b], true⟩ : Tok).cls = .ok := by simp [Tok.cls, h.1]
    simp [specBody, this, ih false h.2]

theorem specEscape_legal_id (bs : Bytes) (h : legalName bs = true) : specEscape bs = bs := by
  cases bs with
  | nil => cases h
  | cons b0 rest =>
    -- a legal name is ASCII, so every byte is a rune, and every rune a name byte
    simp only [legalName, Bool.and_eq_true, Bool.not_eq_eq_eq_not, Bool.not_true] at h
    have hall : (b0 :: rest).all isNameByte = true := by rw [List.all_cons, h.1.1, h.2]; rfl
    rw [specEscape_cons, h.1.2, tokens,
      tokensFuel_ascii _ _ (Nat.le_refl _) fun b hb => name_lt_80 b (List.all_eq_true.mp hall b hb),
      specBody_ok_map _ _ hall]
    rfl

end SE
