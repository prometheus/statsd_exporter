import SE.Proofs.SafetyExpo
/-
`Reg.gatherOk` characterised (`gatherOk_iff`), and one simulation lemma, `gatherOk_within`: every check of `Gather` reads
a metric entry through its name, type, vectors and the label names of its series, and fewer series cannot make a check
fail. The preservation facts (registering nothing, creation inside a vector that has a live child) follow from it.
-/
set_option linter.unusedSectionVars false
namespace SE
variable {V : Type} [NumOps V]

/-! The pieces of `Reg.gatherOk` and `helpConsistent` (SE/Model/Registry.lean) under names of their own: the help string a
series is exposed with (`vecHelpN`: that of the vector with its label names), the help strings of a family (`helpList`),
the agreement of a family with the pre-registered ones of its name (`preOk`, the second conjunct of `gatherOk`), and the
families `suffixCollision` is run on (`liveFams`). -/

def vecHelpN (vecs : List (VecM V)) (names : List Bytes) : Option Bytes :=
  (vecs.find? (·.names == names)).map (·.help)

def helpList (m : MetricM V) : List Bytes := m.series.filterMap fun s => vecHelpN m.vecs (s.labels.map (·.1))

theorem mem_helpList {m : MetricM V} {x : Bytes} (hx : x ∈ helpList m) : ∃ v, v ∈ m.vecs ∧ v.help = x := by
  simp only [helpList, vecHelpN, List.mem_filterMap, Option.map_eq_some_iff] at hx
  obtain ⟨_, _, v, hv, e⟩ := hx
  exact ⟨v, List.mem_of_find?_eq_some hv, e⟩

theorem helpConsistent_iff (m : MetricM V) :
    helpConsistent m = true ↔ ∀ x, x ∈ helpList m → ∀ y, y ∈ helpList m → x = y := by
  show (match helpList m with | [] => true | h :: rest => rest.all (· == h)) = true ↔ _
  cases helpList m with
  | nil => exact ⟨fun _ => nofun, fun _ => rfl⟩
  | cons h rest =>
    simp only [List.all_eq_true, beq_iff_eq]
    refine ⟨fun hall x hx y hy => ?_, fun hall y hy => hall y (List.mem_cons_of_mem _ hy) h (List.mem_cons_self ..)⟩
    have eq_h : ∀ z, z ∈ h :: rest → z = h := fun z hz => (List.mem_cons.mp hz).elim id (hall z)
    rw [eq_h x hx, eq_h y hy]

theorem helpConsistent_of_vecs {m : MetricM V} (h : ∀ v, v ∈ m.vecs → ∀ w, w ∈ m.vecs → v.help = w.help) :
    helpConsistent m = true := by
  rw [helpConsistent_iff]
  intro x hx y hy
  obtain ⟨v, hv, rfl⟩ := mem_helpList hx
  obtain ⟨w, hw, rfl⟩ := mem_helpList hy
  exact h v hv w hw

theorem helpConsistent_of_sim {m m' : MetricM V} (hv : m'.vecs = m.vecs)
    (hs : ∀ s', s' ∈ m'.series → ∃ s, s ∈ m.series ∧ s'.labels.map (·.1) = s.labels.map (·.1))
    (h : helpConsistent m = true) : helpConsistent m' = true := by
  rw [helpConsistent_iff] at h ⊢
  have hsub : ∀ x, x ∈ helpList m' → x ∈ helpList m := fun x hx => by
    simp only [helpList, List.mem_filterMap] at hx ⊢
    obtain ⟨s', hs', hx⟩ := hx
    obtain ⟨s, hs0, hl⟩ := hs s' hs'
    exact ⟨s, hs0, by rw [← hl, ← hv]; exact hx⟩
  exact fun x hx y hy => h x (hsub x hx) y (hsub y hy)

theorem suffixCollision_iff (fams : List (Bytes × MType)) :
    suffixCollision fams = true ↔ ∃ x, x ∈ fams ∧ ∃ y, y ∈ fams ∧ y.1 ∈ companionNames x.1 x.2 := by
  unfold suffixCollision
  rw [List.any_eq_true]
  refine exists_congr fun x => and_congr_right fun _ => ?_
  obtain ⟨n, t⟩ := x
  cases t with
  | counter | gauge => exact ⟨nofun, fun ⟨_, _, h⟩ => nomatch h⟩
  | histogram | summary =>
    simp only [List.any_eq_true, Bool.or_eq_true, beq_iff_eq, companionNames, List.mem_cons, List.not_mem_nil,
      or_false, or_assoc]

def preOk (pre : List (Bytes × MType × Bytes)) (m : MetricM V) : Bool :=
  pre.all fun p => p.1 != m.name ||
    (p.2.1 == m.ty && m.series.all fun s => vecHelpN m.vecs (s.labels.map (·.1)) == some p.2.2)

theorem preOk_iff (pre : List (Bytes × MType × Bytes)) (m : MetricM V) :
    preOk pre m = true ↔ ∀ p, p ∈ pre → p.1 = m.name →
      p.2.1 = m.ty ∧ ∀ s, s ∈ m.series → vecHelpN m.vecs (s.labels.map (·.1)) = some p.2.2 := by
  simp only [preOk, List.all_eq_true, Bool.or_eq_true, bne_iff_ne, Bool.and_eq_true, beq_iff_eq, ne_eq,
    ← Decidable.imp_iff_not_or]

def liveFams (r : Reg V) : List (Bytes × MType) :=
  (r.metrics.filter (!·.series.isEmpty)).map (fun m => (m.name, m.ty)) ++ r.pre.map (fun p => (p.1, p.2.1))

theorem mem_liveFams {r : Reg V} {x : Bytes × MType} :
    x ∈ liveFams r ↔
      (∃ m, m ∈ r.metrics ∧ m.series.isEmpty = false ∧ (m.name, m.ty) = x) ∨ ∃ p, p ∈ r.pre ∧ (p.1, p.2.1) = x := by
  simp only [liveFams, List.mem_append, List.mem_map, List.mem_filter, Bool.not_eq_true', and_assoc]

theorem gatherOk_iff (r : Reg V) :
    r.gatherOk = true ↔
      (∀ m, m ∈ r.metrics → m.series.isEmpty = false → helpConsistent m = true ∧ preOk r.pre m = true) ∧
      ¬∃ x, x ∈ liveFams r ∧ ∃ y, y ∈ liveFams r ∧ y.1 ∈ companionNames x.1 x.2 := by
  rw [← suffixCollision_iff, Bool.not_eq_true]
  unfold Reg.gatherOk liveFams preOk vecHelpN
  simp only [Bool.and_eq_true, List.all_eq_true, List.mem_filter, Bool.not_eq_true', and_imp, imp_and, forall_and]

theorem gatherOk_within {r r' : Reg V} (hw : r'.Within r) (h : r.gatherOk = true) : r'.gatherOk = true := by
  obtain ⟨hpre, hsim⟩ := hw
  have hlive : ∀ m', m' ∈ r'.metrics → m'.series.isEmpty = false →
      ∃ m, m ∈ r.metrics ∧ m.series.isEmpty = false ∧ m'.Within m := by
    intro m' hm' he'
    obtain ⟨m, hm, hmw⟩ := hsim m' hm'
    obtain ⟨s', hs'⟩ := List.isEmpty_eq_false_iff_exists_mem.mp he'
    obtain ⟨s, hs0, _⟩ := hmw.2 s' hs'
    exact ⟨m, hm, List.isEmpty_eq_false_iff_exists_mem.mpr ⟨s, hs0⟩, hmw⟩
  have hfams : ∀ x, x ∈ liveFams r' → x ∈ liveFams r := by
    intro x hx
    rw [mem_liveFams] at hx ⊢
    rcases hx with ⟨m', hm', he', e⟩ | hx
    · obtain ⟨m, hm, he, ⟨hn, hty, _⟩, _⟩ := hlive m' hm' he'
      exact Or.inl ⟨m, hm, he, by rw [← e, hn, hty]⟩
    · exact Or.inr (hpre ▸ hx)
  rw [gatherOk_iff] at h ⊢
  refine ⟨fun m' hm' he' => ?_, fun ⟨x, hx, y, hy, hxy⟩ => h.2 ⟨x, hfams x hx, y, hfams y hy, hxy⟩⟩
  obtain ⟨m, hm, he, ⟨hn, hty, hv⟩, hs⟩ := hlive m' hm' he'
  obtain ⟨c1, c2⟩ := h.1 m hm he
  refine ⟨helpConsistent_of_sim hv hs c1, (preOk_iff _ _).mpr fun p hp e => ?_⟩
  obtain ⟨ht, hall⟩ := (preOk_iff _ _).mp c2 p (hpre ▸ hp) (e.trans hn)
  refine ⟨ht.trans hty.symm, fun s' hs' => ?_⟩
  obtain ⟨s, hs0, hl⟩ := hs s' hs'
  rw [hv, hl]
  exact hall s hs0

theorem gatherOk_empty_pre (pre : List (Bytes × MType × Bytes)) :
    ({ metrics := [], pre := pre } : Reg V).gatherOk = true ↔
      ¬∃ x, x ∈ pre.map (fun p => (p.1, p.2.1)) ∧ ∃ y, y ∈ pre.map (fun p => (p.1, p.2.1)) ∧ y.1 ∈ companionNames x.1 x.2 :=
  (gatherOk_iff _).trans (and_iff_right fun _ h => nomatch h)

/-- a created series joins the vector of the live child `s0` and no vector is added, so `r'` is within `r` -/
theorem gatherOk_getOrCreate_live_vec {r r' : Reg V} (hw : RegWF r) {ty : MType} {a : GetArgs V} {now : Int}
    (hg : r.getOrCreate ty a now = .ok (.ok r'))
    (hlive : ∃ m0 s0, m0 ∈ r.metrics ∧ m0.name = a.name ∧ s0 ∈ m0.series ∧ s0.labels.map (·.1) = a.labels.map (·.1))
    (h : r.gatherOk = true) : r'.gatherOk = true := by
  rcases getOrCreate_ok_cases hg with ⟨_, e⟩ | ⟨_, _, _, _, _, e⟩
  · subst e; exact gatherOk_within (within_touch r a now) h
  subst e
  obtain ⟨m0, s0, hm0, hn0, hs0, hl0⟩ := hlive
  have hfind : r.find a.name = some m0 := hn0 ▸ hw.find_of_mem hm0
  -- the vector of `s0` is the addressed one: `Store` adds none
  have hex : (r.existingVec ty a).isSome = true := by
    obtain ⟨v, hv, hvn⟩ := hw.has_vec m0 hm0 s0 hs0
    rw [existingVec_eq_vec? hg, Reg.vec?, hfind, Option.bind_some, List.find?_isSome]
    exact ⟨v, hv, by rw [hvn, hl0]; exact beq_self_eq_true _⟩
  refine gatherOk_within ⟨getOrCreate_pre hg, fun m' hm' => ?_⟩ h
  rcases mem_create hm' with ⟨hm, _⟩ | ⟨m, hm | ⟨_, hnone⟩, hn, e⟩
  · exact ⟨m', hm, ⟨rfl, rfl, rfl⟩, fun s hs => ⟨s, hs, rfl⟩⟩
  · have hmeq : m = m0 := Option.some.inj ((hn ▸ hw.find_of_mem hm).symm.trans hfind)
    subst hmeq e
    refine ⟨m, hm, ⟨rfl, rfl, if_pos hex⟩, fun s' hs' => ?_⟩
    rcases mem_storeIn_series.mp hs' with hs' | rfl
    · exact ⟨s', hs', rfl⟩
    · exact ⟨s0, hs0, hl0.symm⟩
  · rw [hfind] at hnone; cases hnone

end SE
