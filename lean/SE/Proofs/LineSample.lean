import SE.Spec.Line
import SE.Proofs.LineLabels
/-
The five fields of the component state of `stepComponent` evolve independently of each other, each driven by a function
of the component alone, so the state after the component loop is the tuple of five folds (`foldl_stepComponent`). A
sample therefore acts on the parser state by an `Effect` that depends on the sample alone (`parseSample_eq`), the
sample loop adds up the effects (`foldl_parseSample`), and `effect_cases` says what the effect is: one error for a
sample that is not accepted, `acceptedEffect` of its fields otherwise. Nothing outside this file unfolds
`parseSample` or `stepComponent`.
-/
namespace SE
section
open NumOps
variable {V : Type} [NumOps V]

/-! What one component of a sample (`range components[2:]` in line.go, `stepComponent` in the model) does to each of the
five fields, as a function of the component: `@rate` sets the rate (`compRate`, with Go's `if samplingFactor == 0`
as `effRate`), which divides a counter's value (`rateValue`) or sets `multiplyEvents` of a timer (`rateCopies`); `#tags`
adds labels and tag errors (`compKVs`, `compTagErrs`); a failed `ParseFloat` and any other first byte count an error
(`compErrs`). -/

def signedValue : Bytes → Bool
  | b :: _ => b == cPlus || b == cMinus
  | [] => false

def effRate (rate : V) : V := if isZero rate then one else rate

end
variable {V : Type} [NumOps V]

def compRate (pf : Pf V) : Bytes → Option V
  | b :: r => if b == cAt then some (effRate (pf r).1) else none
  | [] => none

def rateValue (st : StatType) (x : V) : Option V → V
  | some sf => if st = .c then NumOps.div x sf else x
  | none => x

def rateCopies (st : StatType) (n : Int) : Option V → Int
  | some sf => if st = .ms ∨ st = .h ∨ st = .d then NumOps.recipInt sf else n
  | none => n

def compErrs (pf : Pf V) : Bytes → List Reason
  | [] => []
  | b :: r =>
    if b == cAt then (if (pf r).2 != .ok then [.invalidSampleFactor] else [])
    else if b == cHash then [] else [.invalidSampleFactor]

def compKVs (fl : ParserFlags) : Bytes → List (Bytes × Bytes)
  | [] => []
  | b :: r => if b == cHash then dogKVs fl r else []

def compTagErrs (fl : ParserFlags) : Bytes → Nat
  | [] => 0
  | b :: r => if b == cHash then (parseDogStatsDTags fl r []).2 else 0

private theorem hash_ne_at : (cHash == cAt) = false := by decide

@[simp] theorem compRate_hash (pf : Pf V) (r : Bytes) : compRate pf (cHash :: r) = none := rfl
@[simp] theorem compRate_at (pf : Pf V) (r : Bytes) : compRate pf (cAt :: r) = some (effRate (pf r).1) := rfl
omit [NumOps V] in
@[simp] theorem compErrs_hash (pf : Pf V) (r : Bytes) : compErrs pf (cHash :: r) = [] := rfl
@[simp] theorem compKVs_hash (fl : ParserFlags) (r : Bytes) : compKVs fl (cHash :: r) = dogKVs fl r := rfl
@[simp] theorem compTagErrs_hash (fl : ParserFlags) (r : Bytes) :
    compTagErrs fl (cHash :: r) = (parseDogStatsDTags fl r []).2 := rfl
@[simp] theorem rateValue_none (st : StatType) (x : V) : rateValue st x none = x := rfl
@[simp] theorem rateCopies_none (st : StatType) (n : Int) : rateCopies (V := V) st n none = n := rfl

theorem stepComponent_eq (fl : ParserFlags) (pf : Pf V) (st : StatType) (s : CompSt V) (c : Bytes) :
    stepComponent fl pf st s c =
      { value := rateValue st s.value (compRate pf c), mult := rateCopies st s.mult (compRate pf c),
        labels := applyKVs s.labels (compKVs fl c), errs := s.errs ++ compErrs pf c,
        tagErrs := s.tagErrs + compTagErrs fl c } := by
  cases c with
  | nil => simp [stepComponent, compRate, compKVs, compErrs, compTagErrs, applyKVs_nil]
  | cons b r =>
    by_cases hb : (b == cAt) = true
    · have hh : (b == cHash) = false := by rw [beq_iff_eq.mp hb]; decide
      simp only [stepComponent, compRate, compKVs, compErrs, compTagErrs, hb, hh, if_true, rateValue, rateCopies,
        applyKVs_nil, Nat.add_zero, Bool.false_eq_true, if_false, effRate]
      cases (pf r).2 != PfErr.ok <;> cases st <;> simp
    · by_cases hh : (b == cHash) = true
      · rw [beq_iff_eq.mp hh]
        simp [stepComponent, hash_ne_at, parseDogStatsDTags_eq fl r s.labels]
      · simp [stepComponent, compRate, compKVs, compErrs, compTagErrs, hb, hh, applyKVs_nil]

theorem foldl_stepComponent (fl : ParserFlags) (pf : Pf V) (st : StatType) (cs : List Bytes) :
    ∀ s : CompSt V, cs.foldl (stepComponent fl pf st) s =
      { value := cs.foldl (fun x c => rateValue st x (compRate pf c)) s.value,
        mult := cs.foldl (fun n c => rateCopies st n (compRate pf c)) s.mult,
        labels := applyKVs s.labels (cs.flatMap (compKVs fl)),
        errs := s.errs ++ cs.flatMap (compErrs pf),
        tagErrs := s.tagErrs + (cs.map (compTagErrs fl)).sum } := by
  induction cs with
  | nil => intro s; simp [applyKVs_nil]
  | cons c cs ih =>
    intro s
    rw [List.foldl_cons, ih, stepComponent_eq]
    simp [applyKVs_append, Nat.add_assoc]

theorem foldl_rateCopies_of_not_observer (pf : Pf V) {st : StatType} (hst : ¬(st = .ms ∨ st = .h ∨ st = .d))
    (cs : List Bytes) (n : Int) : cs.foldl (fun n c => rateCopies st n (compRate pf c)) n = n := by
  refine List.foldlRecOn (motive := (· = n)) cs _ rfl fun k hk c _ => ?_
  rw [hk]
  unfold rateCopies
  split <;> simp [hst]

/-- a component that can add neither labels nor tag errors: DogStatsD tags are off, or it is no `#` section -/
def Inert (fl : ParserFlags) (c : Bytes) : Prop := fl.dogstatsd = false ∨ ∀ q, c ≠ cHash :: q

theorem compKVs_inert {fl : ParserFlags} {c : Bytes} (h : Inert fl c) :
    compKVs fl c = [] ∧ compTagErrs fl c = 0 := by
  unfold compKVs compTagErrs
  rcases c with _ | ⟨b, r⟩
  · exact ⟨rfl, rfl⟩
  · by_cases hb : b = cHash
    · subst hb
      rcases h with h | h
      · simp [dogKVs, parseDogStatsDTags, h]
      · exact absurd rfl (h r)
    · simp [hb]

theorem inert_of_no_dog (fl : ParserFlags) {s : Bytes} (h : containsSub [cPipe, cHash] s = false) :
    ∀ c ∈ (splitOn cPipe s).drop 2, Inert fl c := by
  intro c hc
  refine Or.inr fun q e => ?_
  obtain ⟨p, ps, hp⟩ := List.exists_cons_of_ne_nil (splitOn_ne_nil cPipe s)
  rw [hp] at hc
  rw [containsSub_of_piece hp (e ▸ List.mem_of_mem_drop (i := 1) hc)] at h
  cases h

structure Effect (V : Type) where
  events : List (Ev V) := []
  errs : List Reason := []
  tagErrs : Nat := 0
  kvs : List (Bytes × Bytes) := []
  /-- did the sample get as far as its components (`sampleAccepted`)? -/
  accepted : Bool := false

def after (o : ParseOut V) (d : Effect V) : ParseOut V :=
  { events := o.events ++ d.events, labels := applyKVs o.labels d.kvs, errs := o.errs ++ d.errs,
    samples := o.samples + 1, tagErrs := o.tagErrs + d.tagErrs,
    tagsRecv := o.tagsRecv + if d.accepted && !(applyKVs o.labels d.kvs).isEmpty then 1 else 0 }

/-- the loop `for i := 0; i < multiplyEvents; i++` around `buildEvent`: `n` events, or `n` `illegal_event` errors -/
def emit (st : StatType) (m : Bytes) (x : V) (rel : Bool) (n : Nat) : List (Ev V) × List Reason :=
  match buildEvent st m x rel with
  | some ev => (List.replicate n ev, [])
  | none => ([], List.replicate n .illegalEvent)

def acceptedEffect (fl : ParserFlags) (pf : Pf V) (m v t : Bytes) (extra : List Bytes) : Effect V :=
  let out := emit (statTypeOf t) m (extra.foldl (fun x c => rateValue (statTypeOf t) x (compRate pf c)) (pf v).1)
    (signedValue v) (extra.foldl (fun n c => rateCopies (statTypeOf t) n (compRate pf c)) 1).toNat
  { events := out.1, errs := extra.flatMap (compErrs pf) ++ out.2, tagErrs := (extra.map (compTagErrs fl)).sum,
    kvs := extra.flatMap (compKVs fl), accepted := true }

/-- the tests of `parseSample`, in its order -/
def effect (fl : ParserFlags) (pf : Pf V) (m s : Bytes) : Effect V :=
  match splitOn cPipe s with
  | v :: t :: extra =>
    if extra.length > 2 then { errs := [.malformedComponent] }
    else if (pf v).2 != .ok then { errs := [.malformedValue] }
    else if extra.any (·.isEmpty) then { errs := [.malformedComponent] }
    else acceptedEffect fl pf m v t extra
  | _ => { errs := [.malformedComponent] }

omit [NumOps V] in
theorem after_err (o : ParseOut V) (r : Reason) :
    after o { errs := [r] } = { o with samples := o.samples + 1, errs := o.errs ++ [r] } := by
  simp [after, applyKVs_nil]

theorem parseSample_eq (fl : ParserFlags) (pf : Pf V) (m : Bytes) (o : ParseOut V) (s : Bytes) :
    parseSample fl pf m o s = after o (effect fl pf m s) := by
  unfold parseSample effect
  rcases splitOn cPipe s with _ | ⟨v, _ | ⟨t, extra⟩⟩
  · exact (after_err o _).symm
  · exact (after_err o _).symm
  · -- both sides make the same three tests, and a failed test adds its one error: what is left to compare
    -- is the accepted branch
    simp only [apply_ite (after o), after_err, foldl_stepComponent]
    congr 3
    unfold acceptedEffect emit after signedValue
    generalize (buildEvent (statTypeOf t) m _ _ : Option (Ev V)) = be
    cases (applyKVs o.labels (extra.flatMap (compKVs fl))).isEmpty <;> cases be <;> simp

theorem effect_cases (fl : ParserFlags) (pf : Pf V) (m s : Bytes) :
    (sampleAccepted pf s = false ∧ ∃ r, effect fl pf m s = { errs := [r] }) ∨
    (sampleAccepted pf s = true ∧ ∃ v t extra, effect fl pf m s = acceptedEffect fl pf m v t extra ∧
      splitOn cPipe s = v :: t :: extra ∧ extra.length ≤ 2 ∧ (pf v).2 = .ok ∧ extra.any (·.isEmpty) = false) := by
  unfold effect sampleAccepted
  rcases splitOn cPipe s with _ | ⟨v, _ | ⟨t, extra⟩⟩
  · exact .inl ⟨rfl, _, rfl⟩
  · exact .inl ⟨rfl, _, rfl⟩
  · by_cases hl : extra.length > 2
    · exact .inl ⟨by simp; omega, .malformedComponent, if_pos hl⟩
    · by_cases hv : (pf v).2 = .ok
      · by_cases he : extra.any (·.isEmpty) = true
        · exact .inl ⟨by simp [he], .malformedComponent, by simp [hl, hv, he]⟩
        · exact .inr ⟨by simp [hv, he]; omega, v, t, extra, by simp [hl, hv, he], rfl, by omega, hv,
            Bool.eq_false_iff.mpr he⟩
      · exact .inl ⟨by simp [hv], .malformedValue, by simp [hl, hv]⟩

theorem effect_accepted (fl : ParserFlags) (pf : Pf V) (m s : Bytes) :
    (effect fl pf m s).accepted = sampleAccepted pf s := by
  rcases effect_cases fl pf m s with ⟨ha, r, e⟩ | ⟨ha, v, t, extra, e, _⟩
  · rw [e, ha]
  · rw [e, ha]; rfl

theorem effect_of_accepted (fl : ParserFlags) (pf : Pf V) (m : Bytes) {s v t : Bytes} {extra : List Bytes}
    (hsp : splitOn cPipe s = v :: t :: extra) (h : sampleAccepted pf s = true) :
    effect fl pf m s = acceptedEffect fl pf m v t extra := by
  rcases effect_cases fl pf m s with ⟨ha, _⟩ | ⟨_, v', t', extra', e, hsp', _⟩
  · rw [h] at ha; cases ha
  · rw [hsp] at hsp'; cases hsp'; exact e

theorem effect_kvs (fl : ParserFlags) (pf : Pf V) (m s : Bytes) :
    (effect fl pf m s).kvs =
      if sampleAccepted pf s = true then ((splitOn cPipe s).drop 2).flatMap (compKVs fl) else [] := by
  rcases effect_cases fl pf m s with ⟨ha, r, e⟩ | ⟨ha, v, t, extra, e, hsp, _⟩
  · rw [e, ha]; rfl
  · rw [e, ha, hsp]; rfl

theorem effect_not_accepted (fl : ParserFlags) (pf : Pf V) (m s : Bytes) (h : sampleAccepted pf s = false) :
    (effect fl pf m s).events = [] := by
  rcases effect_cases fl pf m s with ⟨_, r, e⟩ | ⟨ha, _⟩
  · rw [e]
  · rw [h] at ha; cases ha

/-- `tagsRecv` is left out: it depends on the labels at each step -/
theorem foldl_parseSample (fl : ParserFlags) (pf : Pf V) (m : Bytes) (ss : List Bytes) : ∀ o : ParseOut V,
    (ss.foldl (parseSample fl pf m) o).events = o.events ++ (ss.map fun s => (effect fl pf m s).events).flatten ∧
    (ss.foldl (parseSample fl pf m) o).errs = o.errs ++ (ss.map fun s => (effect fl pf m s).errs).flatten ∧
    (ss.foldl (parseSample fl pf m) o).samples = o.samples + ss.length ∧
    (ss.foldl (parseSample fl pf m) o).tagErrs = o.tagErrs + (ss.map fun s => (effect fl pf m s).tagErrs).sum ∧
    (ss.foldl (parseSample fl pf m) o).labels =
      applyKVs o.labels (ss.map fun s => (effect fl pf m s).kvs).flatten := by
  induction ss with
  | nil => intro o; simp [applyKVs_nil]
  | cons s ss ih =>
    intro o
    simp only [List.foldl_cons, parseSample_eq, ih, after, List.map_cons, List.flatten_cons, List.length_cons,
      List.sum_cons, applyKVs_append, List.append_assoc, Nat.add_assoc, Nat.add_comm 1, and_self]

/-- equality of the label-independent part of two parser outputs -/
structure OutEq (o o' : ParseOut V) : Prop where
  events : o.events = o'.events
  errs : o.errs = o'.errs
  samples : o.samples = o'.samples
  tagErrs : o.tagErrs = o'.tagErrs

theorem buildEvent_name {st : StatType} {m : Bytes} {v : V} {r : Bool} {ev : Ev V}
    (h : buildEvent st m v r = some ev) : ev.name = m := by
  cases st <;> simp [buildEvent] at h <;> rw [← h]

theorem emit_names (st : StatType) (m : Bytes) (x : V) (rel : Bool) (n : Nat) :
    ∀ ev ∈ (emit st m x rel n).1, ev.name = m := by
  unfold emit; split
  · rename_i ev hb
    intro e he
    rw [List.eq_of_mem_replicate he]
    exact buildEvent_name hb
  · simp

theorem emit_of_none {st : StatType} (h : st = .s ∨ st = .bad) (m : Bytes) (x : V) (rel : Bool) (n : Nat) :
    emit st m x rel n = ([], List.replicate n .illegalEvent) := by
  rcases h with rfl | rfl <;> rfl

theorem effect_names (fl : ParserFlags) (pf : Pf V) (m s : Bytes) :
    ∀ ev ∈ (effect fl pf m s).events, ev.name = m := by
  rcases effect_cases fl pf m s with ⟨_, r, e⟩ | ⟨_, v, t, extra, e, _⟩
  · rw [e]; simp
  · rw [e]; exact emit_names _ _ _ _ _

theorem effect_inert (fl : ParserFlags) (pf : Pf V) (m s : Bytes)
    (h : ∀ c ∈ (splitOn cPipe s).drop 2, Inert fl c) :
    (effect fl pf m s).kvs = [] ∧ (effect fl pf m s).tagErrs = 0 := by
  rcases effect_cases fl pf m s with ⟨_, r, e⟩ | ⟨_, v, t, extra, e, hsp, _⟩
  · rw [e]; exact ⟨rfl, rfl⟩
  · rw [hsp] at h
    rw [e]
    exact ⟨List.flatMap_eq_nil_iff.mpr fun c hc => (compKVs_inert (h c hc)).1,
      List.sum_eq_zero_iff_forall_eq_nat.mpr (List.forall_mem_map.mpr fun c hc => (compKVs_inert (h c hc)).2)⟩

theorem foldl_parseSample_inert (fl : ParserFlags) (pf : Pf V) (m : Bytes) (ss : List Bytes)
    (h : ∀ s ∈ ss, ∀ c ∈ (splitOn cPipe s).drop 2, Inert fl c) (o : ParseOut V) :
    (ss.foldl (parseSample fl pf m) o).labels = o.labels ∧
    (ss.foldl (parseSample fl pf m) o).tagErrs = o.tagErrs := by
  obtain ⟨-, -, -, h4, h5⟩ := foldl_parseSample fl pf m ss o
  rw [h4, h5,
    List.flatten_eq_nil_iff.mpr (List.forall_mem_map.mpr fun s hs => (effect_inert fl pf m s (h s hs)).1),
    List.sum_eq_zero_iff_forall_eq_nat.mpr (List.forall_mem_map.mpr fun s hs => (effect_inert fl pf m s (h s hs)).2)]
  exact ⟨rfl, rfl⟩

theorem effect_rejected (fl : ParserFlags) (pf : Pf V) (m s : Bytes) (h : sampleRejected pf s = true) :
    (effect fl pf m s).events = [] ∧ (effect fl pf m s).errs ≠ [] := by
  rcases effect_cases fl pf m s with ⟨_, r, e⟩ | ⟨_, v, t, extra, e, hsp, hl, hv, he⟩
  · rw [e]; exact ⟨rfl, by simp⟩
  · have hst : statTypeOf t = .s ∨ statTypeOf t = .bad := by
      simpa [sampleRejected, hsp, Nat.not_lt.mpr hl, hv, he] using h
    -- the type builds no event, and without a repetition count there is exactly one `illegal_event`
    have hm := foldl_rateCopies_of_not_observer pf (st := statTypeOf t) (by rcases hst with h | h <;> simp [h]) extra 1
    rw [e]
    simp only [acceptedEffect, emit_of_none hst, hm]
    exact ⟨trivial, by simp⟩

end SE
