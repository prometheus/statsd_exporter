import SE.Proofs.Line
/-
Lemmas for C09: the tag loops compute `specTags` on rendered tag lists, `parseNameAndTags` on the three
name-side syntaxes, and what name-side labels or an appended `|#tags` section change on a one-sample line.
-/
namespace SE
variable {V : Type} [NumOps V]

theorem render_ne_nil {sep : UInt8} {t : TagEntry} (h : t ≠ .bare []) : t.render sep ≠ [] := by
  cases t with
  | kv k v => cases k <;> simp [TagEntry.render]
  | bare x => exact fun e => h (congrArg TagEntry.bare e)

theorem TagEntry.Ok.render_free {t : TagEntry} (h : t.Ok) {c sep : UInt8} (hc : c ∈ tagDelims)
    (hs : c ≠ sep) : c ∉ t.render sep := by
  have hk : c ∉ t.keyPart := h.1 c (by simp [hc])
  have hv : c ∉ t.valPart := h.2 c hc
  cases t with
  | kv k v => exact not_mem_append_cons hk hs hv
  | bare y => exact hk

theorem TagsOk.render_free {ts : List TagEntry} (h : TagsOk ts) {c sep : UInt8} (hc : c ∈ tagDelims)
    (hs : c ≠ sep) : ∀ p ∈ ts.map (TagEntry.render sep), c ∉ p := by
  intro p hp
  obtain ⟨t, ht, rfl⟩ := List.mem_map.mp hp
  exact (h.1 t ht).render_free hc hs

theorem splitOn_render (sep : UInt8) (hsep : cComma ≠ sep) {ts : List TagEntry} (h : TagsOk ts) :
    splitOn cComma (joinWith cComma (ts.map (TagEntry.render sep))) = ts.map (TagEntry.render sep) := by
  obtain ⟨init, last, e, _⟩ := h.2
  exact splitOn_joinWith (by rw [e]; simp) (h.render_free (by simp [tagDelims]) hsep)

theorem render_join_free (sep : UInt8) {ts : List TagEntry} (h : TagsOk ts) {c : UInt8}
    (hc : c ∈ tagDelims) (h1 : c ≠ cComma) (h2 : c ≠ sep) :
    c ∉ joinWith cComma (ts.map (TagEntry.render sep)) :=
  not_mem_joinWith h1 (h.render_free hc h2)

theorem renderEq_free {ts : List TagEntry} (h : TagsOk ts) :
    cColon ∉ renderEq ts ∧ cLBr ∉ renderEq ts ∧ cRBr ∉ renderEq ts := by
  refine ⟨?_, ?_, ?_⟩ <;> exact render_join_free cEq h (by simp [tagDelims]) (by decide) (by decide)

theorem specTagStep_render (sep : UInt8) (t : TagEntry) (hsep : sep ∉ t.keyPart) (acc : Labels × Nat) :
    specTagStep acc t = (applyKVs acc.1 (tagKV sep (t.render sep)),
      acc.2 + if (tagKV sep (t.render sep)).isEmpty then 1 else 0) := by
  cases t with
  | kv k v =>
    have hne : (k ++ sep :: v).isEmpty = false := by cases k <;> rfl
    simp only [TagEntry.render, tagKV, hne, cut_append v (show sep ∉ k from hsep), specTagStep]
    cases k.isEmpty || v.isEmpty <;> simp [applyKVs]
  | bare x =>
    simp only [TagEntry.render, tagKV, specTagStep, cut_eq_none_iff.mpr (show sep ∉ x from hsep)]
    cases x <;> simp [applyKVs_nil]

/-- the specification fold in the terms of `parseTagPieces_eq`, for a `trim` that leaves the entries alone -/
theorem foldl_specTagStep (trim : Bytes → Bytes) (sep : UInt8) (ts : List TagEntry)
    (h : ∀ t ∈ ts, sep ∉ t.keyPart ∧ trim (t.render sep) = t.render sep) :
    ∀ acc : Labels × Nat, ts.foldl specTagStep acc =
      (applyKVs acc.1 ((ts.map (TagEntry.render sep)).flatMap fun p => tagKV sep (trim p)),
        acc.2 + (ts.map (TagEntry.render sep)).countP fun p => (tagKV sep (trim p)).isEmpty) := by
  induction ts with
  | nil => intro acc; rfl
  | cons t ts ih =>
    intro acc
    obtain ⟨hk, ht⟩ := h t (by simp)
    rw [List.foldl_cons, specTagStep_render sep t hk, ih (fun x hx => h x (by simp [hx]))]
    simp only [List.map_cons, List.flatMap_cons, applyKVs_append, List.countP_cons, ht]
    congr 1
    split <;> omega

theorem parseTagPieces_render (trim : Bytes → Bytes) (sep : UInt8) (hsep : cComma ≠ sep)
    (hs : sep ∈ cEq :: tagDelims) {ts : List TagEntry} (h : TagsOk ts)
    (htrim : ∀ t ∈ ts, trim (t.render sep) = t.render sep) :
    parseTagPieces trim sep (splitOn cComma (joinWith cComma (ts.map (TagEntry.render sep)))) [] 0 =
      specTags ts := by
  rw [splitOn_render sep hsep h, parseTagPieces_eq, specTags,
    foldl_specTagStep trim sep ts fun t ht => ⟨(h.1 t ht).1 sep hs, htrim t ht⟩]
  obtain ⟨-, init, last, e, hl⟩ := h
  rw [e, List.map_append, List.map_cons, List.map_nil, tagsOf_append (render_ne_nil hl)]

theorem parseNameTags_render {ts : List TagEntry} (h : TagsOk ts) :
    parseNameTags (renderEq ts) [] = specTags ts :=
  parseTagPieces_render id cEq (by decide) (by simp) h fun _ _ => rfl

theorem trimLeftHash_of_free {p : Bytes} (h : cHash ∉ p) : trimLeftHash p = p := by
  cases p with
  | nil => rfl
  | cons b bs => simp [trimLeftHash, (ne_of_not_mem_cons h).1]

theorem parseDogStatsDTags_render (fl : ParserFlags) (hfl : fl.dogstatsd = true)
    {ts : List TagEntry} (h : TagsOk ts) :
    parseDogStatsDTags fl (renderColon ts) [] = specTags ts := by
  unfold parseDogStatsDTags
  rw [if_pos hfl]
  exact parseTagPieces_render trimLeftHash cColon (by decide) (by simp [tagDelims]) h fun t ht =>
    trimLeftHash_of_free ((h.1 t ht).render_free (by simp [tagDelims]) (by decide))

theorem firstNameTagSep_eq (fl : ParserFlags) (s : Bytes) :
    firstNameTagSep fl s = s.findIdx? fun b => (b == cHash && fl.librato) || (b == cComma && fl.influxdb) := by
  induction s with
  | nil => rfl
  | cons b bs ih => rw [firstNameTagSep, List.findIdx?_cons, ih]

theorem firstNameTagSep_none (fl : ParserFlags) {a : Bytes}
    (hh : fl.librato = true → cHash ∉ a) (hc : fl.influxdb = true → cComma ∉ a) :
    firstNameTagSep fl a = none := by
  rw [firstNameTagSep_eq, List.findIdx?_eq_none_iff]
  intro x hx
  rw [Bool.eq_false_iff]
  simp only [ne_eq, Bool.or_eq_true, Bool.and_eq_true, beq_iff_eq]
  rintro (⟨rfl, hl⟩ | ⟨rfl, hl⟩)
  · exact hh hl hx
  · exact hc hl hx

theorem firstNameTagSep_append (fl : ParserFlags) {a : Bytes} (b : UInt8) (x : Bytes)
    (hh : fl.librato = true → cHash ∉ a) (hc : fl.influxdb = true → cComma ∉ a)
    (hb : ((b == cHash && fl.librato) || (b == cComma && fl.influxdb)) = true) :
    firstNameTagSep fl (a ++ b :: x) = some a.length := by
  rw [firstNameTagSep_eq, List.findIdx?_append, ← firstNameTagSep_eq, firstNameTagSep_none fl hh hc,
    List.findIdx?_cons, if_pos hb]
  simp

theorem parseNameAndTags_plain (fl : ParserFlags) {a : Bytes}
    (hh : fl.librato = true → cHash ∉ a) (hc : fl.influxdb = true → cComma ∉ a)
    (hl : fl.signalfx = true → cLBr ∉ a) (hr : fl.signalfx = true → cRBr ∉ a) :
    parseNameAndTags fl a = (a, [], 0) := by
  unfold parseNameAndTags
  simp only [firstNameTagSep_none fl hh hc]
  cases hs : fl.signalfx with
  | false => simp
  | true => simp [indexOf_eq_none_iff.mpr (hl hs), indexOf_eq_none_iff.mpr (hr hs)]

theorem parseNameAndTags_marker (fl : ParserFlags) {n : Bytes} (b : UInt8) (x : Bytes)
    (hh : fl.librato = true → cHash ∉ n) (hc : fl.influxdb = true → cComma ∉ n)
    (hb : ((b == cHash && fl.librato) || (b == cComma && fl.influxdb)) = true)
    (hl : fl.signalfx = true → cLBr ∉ n ++ b :: x) (hr : fl.signalfx = true → cRBr ∉ n ++ b :: x) :
    parseNameAndTags fl (n ++ b :: x) = (n, (parseNameTags x []).1, (parseNameTags x []).2) := by
  unfold parseNameAndTags
  simp only [firstNameTagSep_append fl b x hh hc hb]
  cases hs : fl.signalfx with
  | false => simp
  | true => simp [indexOf_eq_none_iff.mpr (hl hs), indexOf_eq_none_iff.mpr (hr hs)]

theorem parseNameAndTags_signalfx (fl : ParserFlags) (hs : fl.signalfx = true) {pre x : Bytes} (post : Bytes)
    (hl1 : cLBr ∉ pre) (hr1 : cRBr ∉ pre) (hr2 : cRBr ∉ x) :
    parseNameAndTags fl (pre ++ cLBr :: (x ++ cRBr :: post)) =
      (pre ++ post, (parseNameTags x []).1, (parseNameTags x []).2) := by
  have hi1 : indexOf cLBr (pre ++ cLBr :: (x ++ cRBr :: post)) = some pre.length := indexOf_append _ hl1
  have hi2 : indexOf cRBr (pre ++ cLBr :: (x ++ cRBr :: post)) = some (pre.length + (x.length + 1)) := by
    rw [← List.cons_append, ← List.append_assoc, indexOf_append _ (not_mem_append_cons hr1 (by decide) hr2)]
    simp
  unfold parseNameAndTags
  simp only [hs, hi1, hi2, if_true]
  -- the three slices `name[:s]`, `name[s+1:e]`, `name[e+1:]`
  simp [Nat.add_assoc]

theorem NameOk.colon {n : Bytes} (h : NameOk n) : cColon ∉ n := h.free _ (by simp)
theorem NameOk.hash {n : Bytes} (h : NameOk n) : cHash ∉ n := h.free _ (by simp)
theorem NameOk.comma {n : Bytes} (h : NameOk n) : cComma ∉ n := h.free _ (by simp)
theorem NameOk.lbr {n : Bytes} (h : NameOk n) : cLBr ∉ n := h.free _ (by simp)
theorem NameOk.rbr {n : Bytes} (h : NameOk n) : cRBr ∉ n := h.free _ (by simp)

theorem tagged_name_colon {n : Bytes} {ts : List TagEntry} (hn : NameOk n) (ht : TagsOk ts)
    (b : UInt8) (hb : cColon ≠ b) : cColon ∉ n ++ b :: renderEq ts :=
  not_mem_append_cons hn.colon hb (renderEq_free ht).1

theorem marker_name_eq_spec (fl : ParserFlags) (b : UInt8)
    (hb : ((b == cHash && fl.librato) || (b == cComma && fl.influxdb)) = true) (hl : cLBr ≠ b) (hr : cRBr ≠ b)
    {n : Bytes} {ts : List TagEntry} (hn : NameOk n) (ht : TagsOk ts) :
    parseNameAndTags fl (n ++ b :: renderEq ts) = (n, (specTags ts).1, (specTags ts).2) := by
  rw [parseNameAndTags_marker fl b _ (fun _ => hn.hash) (fun _ => hn.comma) hb
    (fun _ => not_mem_append_cons hn.lbr hl (renderEq_free ht).2.1)
    (fun _ => not_mem_append_cons hn.rbr hr (renderEq_free ht).2.2),
    parseNameTags_render ht]

theorem lineToEvents_plain (fl : ParserFlags) (pf : Pf V) {n : Bytes} (hn : NameOk n) (rest : Bytes) :
    lineToEvents fl pf true (mkLine n rest) = afterName fl pf (n, [], 0) rest :=
  lineToEvents_eq fl pf rest hn.ne hn.colon
    (parseNameAndTags_plain fl (fun _ => hn.hash) (fun _ => hn.comma) (fun _ => hn.lbr) (fun _ => hn.rbr))

omit [NumOps V] in
theorem sampleAccepted_nopipe (pf : Pf V) {s : Bytes} (h : cPipe ∉ s) : sampleAccepted pf s = false := by
  simp [sampleAccepted, splitOn_of_not_mem h]

theorem afterName_relabel_single (fl : ParserFlags) (pf : Pf V) (m : Bytes) (L : Labels) (E : Nat)
    (s : Bytes) (hc : cColon ∉ s) (hd : containsSub [cPipe, cHash] s = false) :
    let r := afterName fl pf (m, L, E) s
    let p := afterName fl pf (m, [], 0) s
    r.events = p.events ∧ r.errs = p.errs ∧ r.samples = p.samples ∧
    r.tagErrs = E ∧ p.tagErrs = 0 ∧ p.labels = [] ∧ p.tagsRecv = 0 ∧
    (cPipe ∈ s → r.labels = L) ∧
    r.tagsRecv = (if L.isEmpty || !sampleAccepted pf s then 0 else 1) := by
  intro r p
  rw [show r = _ from afterName_single fl pf m L E s hc hd,
    show p = _ from afterName_single fl pf m [] 0 s hc hd]
  by_cases hps : cPipe ∈ s
  · simp only [if_pos hps]
    cases sampleAccepted pf s <;> cases L.isEmpty <;> simp
  · simp [hps, sampleAccepted_nopipe pf hps]

theorem splitOn_dog (s tags : Bytes) (ht : cPipe ∉ tags) :
    splitOn cPipe (s ++ cPipe :: cHash :: tags) = splitOn cPipe s ++ [cHash :: tags] := by
  rw [splitOn_append_sep, splitOn_of_not_mem (List.not_mem_cons_of_ne_of_not_mem (by decide) ht)]

theorem effect_dog (fl : ParserFlags) (pf : Pf V) (m : Bytes) {s : Bytes} (tags : Bytes)
    (ht : cPipe ∉ tags) (hp : cPipe ∈ s) (hlen : (splitOn cPipe s).length ≤ 3) :
    effect fl pf m (s ++ cPipe :: cHash :: tags) =
      if sampleAccepted pf s = true then
        { effect fl pf m s with
          tagErrs := (effect fl pf m s).tagErrs + (parseDogStatsDTags fl tags []).2
          kvs := (effect fl pf m s).kvs ++ dogKVs fl tags }
      else effect fl pf m s := by
  obtain ⟨v, t, extra, hsp⟩ := splitOn_two_of_mem hp
  have hlen : extra.length ≤ 1 := by simpa [hsp] using hlen
  -- the appended field is non-empty and at most the fourth: the same tests decide both samples
  have hl : ¬ extra.length > 2 := by omega
  have hl' : ¬ (extra ++ [cHash :: tags]).length > 2 := by
    rw [List.length_append, List.length_singleton]; omega
  have hany : (extra ++ [cHash :: tags]).any (·.isEmpty) = extra.any (·.isEmpty) := by simp
  have hacc : sampleAccepted pf s = (!((pf v).2 != .ok) && !extra.any (·.isEmpty)) := by
    simp [sampleAccepted, hsp, bne, show extra.length ≤ 2 by omega]
  rw [effect, effect, splitOn_dog s tags ht, hsp]
  simp only [List.cons_append, if_neg hl, if_neg hl', hany, hacc]
  cases (pf v).2 != PfErr.ok
  · cases extra.any (·.isEmpty)
    · -- both accepted: a `#` component leaves the value and the repetition count alone
      simp [acceptedEffect, List.foldl_append]
    · rfl
  · rfl

theorem afterName_dog_vs_plain (fl : ParserFlags) (pf : Pf V) (m : Bytes) (s tags : Bytes)
    (hc : cColon ∉ s) (hh : cHash ∉ s) (ht : cPipe ∉ tags) (hlen : (splitOn cPipe s).length ≤ 3) :
    let r := afterName fl pf (m, [], 0) (s ++ cPipe :: cHash :: tags)
    let p := afterName fl pf (m, [], 0) s
    r.events = p.events ∧ (cPipe ∈ s → r.errs = p.errs ∧ r.samples = p.samples) ∧
    (sampleAccepted pf s = true →
      r.labels = (parseDogStatsDTags fl tags []).1 ∧ r.tagErrs = (parseDogStatsDTags fl tags []).2 ∧
      r.tagsRecv = (if (parseDogStatsDTags fl tags []).1.isEmpty then 0 else 1)) ∧
    (sampleAccepted pf s = false → r.events = [] ∧ r.labels = [] ∧ r.tagErrs = 0 ∧ r.tagsRecv = 0) := by
  intro r p
  have hd : containsSub [cPipe, cHash] s = false := containsSub_eq_false (.tail _ (.head _)) hh
  -- one sample: a line with `|#` is not cut at the colons after its first `|`
  have hcut : lineSamples false (s ++ cPipe :: cHash :: tags) = .ok [s ++ cPipe :: cHash :: tags] :=
    lineSamples_one _ hc (Bool.and_false _) fun h =>
      absurd (containsSub_iff.mpr (List.infix_append' s [cPipe, cHash] tags)) (Bool.eq_false_iff.mp h)
  have hr : r = after (startSt [] 0) (effect fl pf m (s ++ cPipe :: cHash :: tags)) :=
    (afterName_of_samples fl pf m (L := []) 0 hcut).trans (parseSample_eq ..)
  have hpp : p = _ := afterName_single fl pf m [] 0 s hc hd
  by_cases hp : cPipe ∈ s
  · obtain ⟨k0, e0⟩ := effect_inert fl pf m s (inert_of_no_dog fl hd)
    rw [hr, hpp, if_pos hp, effect_dog fl pf m tags ht hp hlen, parseDogStatsDTags_eq]
    cases ha : sampleAccepted pf s with
    | false => simp [after, startSt, k0, e0, effect_accepted, ha, applyKVs_nil, effect_not_accepted fl pf m s ha]
    | true => simp [after, startSt, k0, e0, effect_accepted, ha]
  · -- `s|#tags` has the two fields `s` and `#tags`: no component, and no such type
    have hsp : splitOn cPipe (s ++ cPipe :: cHash :: tags) = [s, cHash :: tags] := by
      rw [splitOn_dog s tags ht, splitOn_of_not_mem hp]; rfl
    obtain ⟨k0, e0⟩ := effect_inert fl pf m (s ++ cPipe :: cHash :: tags) (by rw [hsp]; simp)
    have hbad : statTypeOf (cHash :: tags) = .bad := by simp [statTypeOf, cHash]
    have hev := (effect_rejected fl pf m (s ++ cPipe :: cHash :: tags) (by simp [sampleRejected, hsp, hbad])).1
    rw [hr, hpp, if_neg hp]
    simp [after, startSt, k0, e0, hev, applyKVs_nil, sampleAccepted_nopipe pf hp, hp]

end SE
