import SE.Proofs.LineSample
/-
The line as a whole (`lineToEvents` of SE/Model/Line.lean). What follows the name is first cut into samples
(`lineSamples`, a function of the bytes and of whether the name carried tags) and then run from the state the name leaves (`runLine`):
`lineToEvents_eq_afterName`. A statement about every line is a two-case analysis of the cut; a statement
about a shape of line is a statement about `lineSamples`.
-/
namespace SE
variable {V : Type} [NumOps V]

/-- the samples of the part `e1` after the name, or why the line is rejected as a whole;
    `tagged`: the name carried a label -/
def lineSamples (tagged : Bool) (e1 : Bytes) : Except Reason (List Bytes) :=
  if containsSub [cPipe, cHash] e1 && tagged then .error .mixedTaggingStyles else
  match splitN3 cPipe e1 with
  | p0 :: p1 :: _ =>
    if containsByte cColon p0 then
      if isExtAggType p1 then
        .ok ((splitOn cColon p0).map fun v => v ++ cPipe :: (match cut cPipe e1 with | some (_, r) => r | none => []))
      else .error .invalidExtAggType
    else if containsSub [cPipe, cHash] e1 then .ok [e1] else .ok (splitOn cColon e1)
  | _ => .error .notEnoughParts

def startSt (L : Labels) (E : Nat) : ParseOut V := { labels := L, tagErrs := E }

def runLine (fl : ParserFlags) (pf : Pf V) (m : Bytes) (L : Labels) (E : Nat) :
    Except Reason (List Bytes) → ParseOut V
  | .ok ss => ss.foldl (parseSample fl pf m) (startSt L E)
  | .error r => { errs := [r], tagErrs := E }

/-- `lineToEvents` after the first-colon cut, from the result `nt` of `parseNameAndTags` -/
def afterName (fl : ParserFlags) (pf : Pf V) (nt : Bytes × Labels × Nat) (e1 : Bytes) : ParseOut V :=
  runLine fl pf nt.1 nt.2.1 nt.2.2 (lineSamples (!nt.2.1.isEmpty) e1)

theorem afterName_of_samples (fl : ParserFlags) (pf : Pf V) (m : Bytes) {L : Labels} (E : Nat) {e1 : Bytes}
    {x : Except Reason (List Bytes)} (h : lineSamples (!L.isEmpty) e1 = x) :
    afterName fl pf (m, L, E) e1 = runLine fl pf m L E x :=
  h ▸ rfl

theorem lineToEvents_eq_afterName (fl : ParserFlags) (pf : Pf V) (valid : Bool) (line e0 e1 : Bytes)
    (hne : line.isEmpty = false) (hcut : cut cColon line = some (e0, e1))
    (h : (e0.isEmpty || !valid) = false) :
    lineToEvents fl pf valid line = afterName fl pf (parseNameAndTags fl e0) e1 := by
  rcases hnt : parseNameAndTags fl e0 with ⟨m, L, E⟩
  rw [lineToEvents, if_neg (by rw [hne]; exact Bool.false_ne_true)]
  simp only [hcut, h, hnt, Bool.false_eq_true, if_false]
  -- both sides make the same tests in the same order, and `runLine` commutes with the tests
  rw [afterName, lineSamples, apply_ite (runLine fl pf m L E)]
  rcases splitN3 cPipe e1 with _ | ⟨p0, _ | ⟨p1, tl⟩⟩
  · rfl
  · rfl
  · simp only [apply_ite (runLine fl pf m L E)]; rfl

theorem lineToEvents_eq (fl : ParserFlags) (pf : Pf V) {e0 : Bytes} (e1 : Bytes) {nt : Bytes × Labels × Nat}
    (h0 : e0 ≠ []) (hc : cColon ∉ e0) (hnt : parseNameAndTags fl e0 = nt) :
    lineToEvents fl pf true (e0 ++ cColon :: e1) = afterName fl pf nt e1 :=
  hnt ▸ lineToEvents_eq_afterName fl pf true _ e0 e1 (by cases e0 <;> simp) (cut_append e1 hc)
    (by cases e0 <;> simp at h0 ⊢)

theorem lineToEvents_of_samples (fl : ParserFlags) (pf : Pf V) {e0 e1 : Bytes} {nt : Bytes × Labels × Nat}
    (h0 : e0 ≠ []) (hc : cColon ∉ e0) (hnt : parseNameAndTags fl e0 = nt)
    {x : Except Reason (List Bytes)} (h : lineSamples (!nt.2.1.isEmpty) e1 = x) :
    lineToEvents fl pf true (e0 ++ cColon :: e1) = runLine fl pf nt.1 nt.2.1 nt.2.2 x :=
  h ▸ lineToEvents_eq fl pf e1 h0 hc hnt

theorem lineSamples_length {tagged : Bool} {e1 : Bytes} {ss : List Bytes} (h : lineSamples tagged e1 = .ok ss) :
    ss.length ≤ e1.length + 1 := by
  unfold lineSamples at h
  split at h
  · cases h
  · split at h
    · next p0 p1 tl h3 =>
      split at h
      · split at h
        · obtain rfl := Except.ok.inj h
          -- the values of an extended-aggregation line are pieces of the part before the first `|`
          have hp0 := congrArg List.length (joinWith_splitN3 cPipe e1)
          rw [h3, joinWith_cons_cons, List.length_append] at hp0
          have := splitOn_length_le cColon p0
          rw [List.length_map]
          omega
        · cases h
      · split at h <;> obtain rfl := Except.ok.inj h
        · exact Nat.le_add_left 1 _
        · exact splitOn_length_le cColon e1
    · cases h

theorem lineToEvents_shape (fl : ParserFlags) (pf : Pf V) (valid : Bool) (line : Bytes) :
    ((lineToEvents fl pf valid line).events = [] ∧ (lineToEvents fl pf valid line).samples = 0 ∧
      (lineToEvents fl pf valid line).errs.length ≤ 1) ∨
    ∃ (m : Bytes) (L : Labels) (E : Nat) (ss : List Bytes),
      lineToEvents fl pf valid line = ss.foldl (parseSample fl pf m) (startSt L E) ∧
      ss.length < line.length := by
  cases line with
  | nil => left; simp [lineToEvents]
  | cons b bs =>
    cases hcut : cut cColon (b :: bs) with
    | none => left; simp [lineToEvents, hcut]
    | some ab =>
      obtain ⟨e0, e1⟩ := ab
      cases h : e0.isEmpty || !valid with
      | true => left; simp [lineToEvents, hcut, h]
      | false =>
        rw [lineToEvents_eq_afterName fl pf valid _ e0 e1 rfl hcut h, afterName]
        cases hx : lineSamples (!(parseNameAndTags fl e0).2.1.isEmpty) e1 with
        | error r => left; simp [runLine]
        | ok ss =>
          have he0 : e0 ≠ [] := by rintro rfl; simp at h
          have hl : (b :: bs).length = e0.length + (e1.length + 1) := by rw [(cut_some hcut).1]; simp
          have := lineSamples_length hx
          have := List.length_pos_iff.mpr he0
          exact Or.inr ⟨_, _, _, ss, rfl, by omega⟩

theorem runLine_names (fl : ParserFlags) (pf : Pf V) (m : Bytes) (L : Labels) (E : Nat)
    (x : Except Reason (List Bytes)) : ∀ ev ∈ (runLine fl pf m L E x).events, ev.name = m := by
  cases x with
  | error r => simp [runLine]
  | ok ss =>
    intro ev hev
    rw [runLine, (foldl_parseSample fl pf m ss _).1, ← List.flatMap_def] at hev
    obtain ⟨s, -, he⟩ := List.mem_flatMap.mp hev
    exact effect_names fl pf m s ev he

theorem runLine_dog_off (fl : ParserFlags) (pf : Pf V) (hfl : fl.dogstatsd = false) (m : Bytes) (L : Labels)
    (E : Nat) (x : Except Reason (List Bytes)) :
    (runLine fl pf m L E x).tagErrs = E ∧
    ((runLine fl pf m L E x).labels = L ∨
      ((runLine fl pf m L E x).labels = [] ∧ (runLine fl pf m L E x).events = [])) := by
  cases x with
  | error r => exact ⟨rfl, Or.inr ⟨rfl, rfl⟩⟩
  | ok ss =>
    obtain ⟨h1, h2⟩ := foldl_parseSample_inert fl pf m ss (fun _ _ _ _ => Or.inl hfl) (startSt L E)
    exact ⟨h2, Or.inl h1⟩

theorem lineSamples_mixed {tagged : Bool} {e1 : Bytes} (h : (containsSub [cPipe, cHash] e1 && tagged) = true) :
    lineSamples tagged e1 = .error .mixedTaggingStyles := by
  simp only [lineSamples, h, if_true]

theorem lineSamples_nopipe (tagged : Bool) {s : Bytes} (hp : cPipe ∉ s) :
    lineSamples tagged s = .error .notEnoughParts := by
  simp [lineSamples, containsSub_eq_false (sub := [cPipe, cHash]) (.head _) hp, splitN3_of_not_mem hp]

theorem lineSamples_of_prefix {tagged : Bool} {a : Bytes} (t : Bytes) (hp : cPipe ∈ a) (hc : cColon ∉ a)
    (hmix : (containsSub [cPipe, cHash] (a ++ t) && tagged) = false) :
    lineSamples tagged (a ++ t) =
      if containsSub [cPipe, cHash] (a ++ t) then .ok [a ++ t] else .ok (splitOn cColon (a ++ t)) := by
  obtain ⟨x, y, rfl, hx⟩ := List.eq_append_cons_of_mem hp
  rw [List.append_assoc, List.cons_append] at hmix ⊢
  obtain ⟨p1, tl, h3⟩ := splitN3_append (y ++ t) hx
  have hcx : cColon ∉ x := fun h => hc (List.mem_append_left _ h)
  unfold lineSamples
  simp only [hmix, h3, containsByte_iff, hcx, Bool.false_eq_true, if_false]

theorem lineSamples_multi (tagged : Bool) {s1 : Bytes} {rest : List Bytes} (hp : cPipe ∈ s1)
    (hc : ∀ s ∈ s1 :: rest, cColon ∉ s)
    (hd : containsSub [cPipe, cHash] (joinWith cColon (s1 :: rest)) = false) :
    lineSamples tagged (joinWith cColon (s1 :: rest)) = .ok (s1 :: rest) := by
  obtain ⟨t, e⟩ : ∃ t, joinWith cColon (s1 :: rest) = s1 ++ t := by
    cases rest with
    | nil => exact ⟨[], (List.append_nil s1).symm⟩
    | cons q qs => exact ⟨_, joinWith_cons_cons cColon s1 q qs⟩
  have := lineSamples_of_prefix (tagged := tagged) t hp (hc s1 (List.mem_cons_self ..)) (by rw [← e, hd]; rfl)
  rwa [← e, hd, if_neg Bool.false_ne_true, splitOn_joinWith (List.cons_ne_nil _ _) hc] at this

theorem lineSamples_single (tagged : Bool) {s : Bytes} (hp : cPipe ∈ s) (hc : cColon ∉ s)
    (hd : containsSub [cPipe, cHash] s = false) : lineSamples tagged s = .ok [s] :=
  lineSamples_multi tagged (rest := []) hp (by simpa using hc) hd

theorem lineSamples_extagg {tagged : Bool} {p0 p1 rest : Bytes} (hp0 : cPipe ∉ p0) (hp1 : cPipe ∉ p1)
    (hrest : rest = [] ∨ ∃ r, rest = cPipe :: r) (hcol : cColon ∈ p0)
    (hmix : (containsSub [cPipe, cHash] (p0 ++ cPipe :: (p1 ++ rest)) && tagged) = false) :
    lineSamples tagged (p0 ++ cPipe :: (p1 ++ rest)) =
      if isExtAggType p1 then .ok ((splitOn cColon p0).map fun v => v ++ cPipe :: (p1 ++ rest))
      else .error .invalidExtAggType := by
  obtain ⟨tl, h3⟩ := splitN3_shape hp0 hp1 hrest
  unfold lineSamples
  simp only [hmix, h3, containsByte_iff, hcol, cut_append _ hp0]
  simp

/-- one sample: without a `|#` section nothing after the value may hold a `:` (`ht`, which `ExtAggDom.rest_colon`
    provides); with one, the line is not split at `:` at all -/
theorem lineSamples_one {tagged : Bool} {v : Bytes} (tail : Bytes) (hv : cColon ∉ v)
    (hmix : (containsSub [cPipe, cHash] (v ++ cPipe :: tail) && tagged) = false)
    (ht : containsSub [cPipe, cHash] (v ++ cPipe :: tail) = false → cColon ∉ tail) :
    lineSamples tagged (v ++ cPipe :: tail) = .ok [v ++ cPipe :: tail] := by
  have hc : cColon ∉ v ++ [cPipe] := List.not_mem_append hv (by decide)
  rw [List.append_cons] at hmix ht ⊢
  rw [lineSamples_of_prefix tail (by simp) hc hmix]
  cases hd : containsSub [cPipe, cHash] (v ++ [cPipe] ++ tail) with
  | true => rfl
  | false => rw [if_neg Bool.false_ne_true, splitOn_of_not_mem (List.not_mem_append hc (ht hd))]

theorem afterName_single (fl : ParserFlags) (pf : Pf V) (m : Bytes) (L : Labels) (E : Nat)
    (s : Bytes) (hc : cColon ∉ s) (hd : containsSub [cPipe, cHash] s = false) :
    afterName fl pf (m, L, E) s =
      if cPipe ∈ s then
        { events := (effect fl pf m s).events, labels := L, errs := (effect fl pf m s).errs, samples := 1,
          tagErrs := E, tagsRecv := if sampleAccepted pf s && !L.isEmpty then 1 else 0 }
      else { errs := [.notEnoughParts], tagErrs := E } := by
  by_cases hp : cPipe ∈ s
  · obtain ⟨k0, e0⟩ := effect_inert fl pf m s (inert_of_no_dog fl hd)
    rw [if_pos hp, afterName_of_samples fl pf m E (lineSamples_single _ hp hc hd)]
    simp [runLine, parseSample_eq, after, startSt, k0, e0, applyKVs_nil, effect_accepted]
  · rw [if_neg hp]
    exact afterName_of_samples fl pf m E (lineSamples_nopipe _ hp)

theorem afterName_single_effect (fl : ParserFlags) (pf : Pf V) (m : Bytes) (L : Labels) (E : Nat)
    (s : Bytes) (hc : cColon ∉ s) (hd : containsSub [cPipe, cHash] s = false) :
    (afterName fl pf (m, L, E) s).events = (effect fl pf m s).events ∧
    (afterName fl pf (m, L, E) s).errs.length = (effect fl pf m s).errs.length := by
  rw [afterName_single fl pf m L E s hc hd]
  by_cases hp : cPipe ∈ s
  · rw [if_pos hp]; exact ⟨rfl, rfl⟩
  · rw [if_neg hp]; simp [effect, splitOn_of_not_mem hp]

end SE
