import SE.Model.Utf8
/-
What the escape proofs need of Go's UTF-8 decoding (`runeWidth`, `tokens`): a rune is one byte wide or all
its bytes are 0x80 or more, and the runes of a string concatenate to the string.
-/
namespace SE

theorem isCont_le {b : UInt8} (h : isCont b = true) : 0x80 ≤ b := by
  simp only [isCont, Bool.and_eq_true, decide_eq_true_eq] at h; exact h.1

/-- the lower bound `ok3` and `ok4` put on the second byte is 0x80 or more -/
theorem le_of_ite_le {c : Prop} [Decidable c] {lo b : UInt8} (hlo : 0x80 ≤ lo) (h : (if c then lo else 0x80) ≤ b) :
    0x80 ≤ b := by
  split at h
  · exact UInt8.le_trans hlo h
  · exact h

theorem runeWidth_cases (l : Bytes) : (runeWidth l).1 = 1 ∨ ∀ b ∈ l.take (runeWidth l).1, 0x80 ≤ b := by
  -- one case for each path through `runeWidth`; only on three of the twelve is the rune wider than a byte:
  -- `case3`, `case6`, `case9`, the well-formed runes of two, three and four bytes
  fun_cases runeWidth l
  case case1 => exact .inr nofun
  case case3 h0 _ _ _ hc => exact .inr (by simpa using ⟨UInt8.not_lt.mp h0, isCont_le hc⟩)
  case case6 h0 _ _ _ _ _ hc =>
    simp only [ok3, Bool.and_eq_true, decide_eq_true_eq] at hc
    exact .inr (by simpa using ⟨UInt8.not_lt.mp h0, le_of_ite_le (by decide) hc.1.1, isCont_le hc.2⟩)
  case case9 h0 _ _ _ _ _ _ _ hc =>
    simp only [ok4, Bool.and_eq_true, decide_eq_true_eq] at hc
    exact .inr (by simpa using
      ⟨UInt8.not_lt.mp h0, le_of_ite_le (by decide) hc.1.1.1, isCont_le hc.1.2, isCont_le hc.2⟩)
  all_goals exact .inl rfl

theorem runeWidth_pos (b : UInt8) (bs : Bytes) : 1 ≤ (runeWidth (b :: bs)).1 := by
  generalize h : b :: bs = l
  fun_cases runeWidth l
  case case1 => cases h
  all_goals decide

theorem runeWidth_ascii {b : UInt8} (bs : Bytes) (h : b < 0x80) : runeWidth (b :: bs) = (1, true) := by
  unfold runeWidth
  exact if_pos h

theorem flat_cons (t : Tok) (ts : List Tok) : flat (t :: ts) = t.bytes ++ flat ts := rfl

theorem flat_tokensFuel (fuel : Nat) (bs : Bytes) (h : bs.length ≤ fuel) : flat (tokensFuel fuel bs) = bs := by
  fun_induction tokensFuel fuel bs with
  | case1 bs => exact (List.eq_nil_of_length_eq_zero (Nat.le_zero.mp h)).symm
  | case2 => rfl
  | case3 n b bs w ih =>
    have hp : 1 ≤ w := runeWidth_pos b bs
    rw [flat_cons, ih (by rw [List.length_drop]; omega)]
    exact List.take_append_drop ..

theorem flat_tokens (bs : Bytes) : flat (tokens bs) = bs := flat_tokensFuel _ _ (Nat.le_refl _)

end SE
