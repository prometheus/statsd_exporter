import SE.Proofs.History
import SE.Spec.FloatLaws
/-
The counter invariant of C06: every counter series holds an ordinary non-negative float part (`CounterOk`), kept by
every step (`CounterOk_steps`); and what C06 states monotonicity with (`exposed`, `NoIntWrap`, `NoWrapLine`).
Arithmetic enters only through `FloatLaws V`.
-/
set_option linter.unusedSectionVars false
namespace SE
open NumOps
variable {V : Type} [NumOps V]

def CounterOk (r : Reg V) : Prop :=
  ∀ m, m ∈ r.metrics → m.ty = .counter → ∀ s, s ∈ m.series → NonNeg s.f

/-- `CounterOk` read through the lookups, the form in which `getOrCreate_series?` speaks of a series -/
def CounterOkL (r : Reg V) : Prop :=
  ∀ name L s, r.type? name = some .counter → r.series? name L = some s → NonNeg s.f

theorem counterOk_iff {r : Reg V} (hw : RegWF r) : CounterOk r ↔ CounterOkL r := by
  have key := hw.forall_series_iff fun t s => t = .counter → NonNeg s.f
  exact ⟨fun h name L s hty hs => key.mp (fun m hm s hs hty => h m hm hty s hs) name L _ s hty hs rfl,
    fun h m hm hty s hs => key.mpr (fun name L t s ht hs e => h name L s (e ▸ ht) hs) m hm s hs hty⟩

theorem CounterOk_empty (pre : List (Bytes × MType × Bytes)) : CounterOk ({ metrics := [], pre := pre } : Reg V) :=
  fun _ h => by cases h

theorem CounterOk_sweep {r : Reg V} (h : CounterOk r) (now : Int) : CounterOk (r.sweep now) := by
  intro m' hm' hty s hs
  obtain ⟨m, hm, rfl⟩ := List.mem_map.mp (sweep_metrics r now ▸ hm')
  exact h m hm hty s (List.mem_filter.mp hs).1

/-- the value a scrape exposes for a counter: `math.Float64frombits(valBits) + float64(valInt)` -/
def exposed (s : Series V) : V := add s.f (ofNat s.n)

def NoIntWrap (s : Series V) (v : V) : Prop := ∀ k, toUInt64Exact v = some k → s.n + k < two64

theorem counterAdd_nonneg (laws : FloatLaws V) (s : Series V) (v : V) (hs : NonNeg s.f) (hv : NonNeg v) :
    NonNeg (counterAdd s v).f := by
  unfold counterAdd
  split
  · exact hs
  · exact laws.add_ok _ _ hs hv

section
variable {p : Pipe V} {rx : Rx} {ev : Ev V} {tags : Labels} {c : Counts} {pl : Plan V} {reg : Reg V}

theorem applied_counter (laws : FloatLaws V) (hw : RegWF p.reg) (hok : CounterOk p.reg)
    (ht : evTarget p rx ev tags = some (c, pl)) (hg : p.reg.getOrCreate pl.1 pl.2.1 p.now = .ok (.ok reg))
    (hty : pl.1 = .counter) :
    NonNeg (evValue p rx ev) ∧ NonNeg (p.reg.refreshed pl.1 pl.2.1 p.now).f ∧
    (appliedPipe p c pl reg).reg.series? pl.2.1.name pl.2.1.labels =
      some (counterAdd (p.reg.refreshed pl.1 pl.2.1 p.now) (evValue p rx ev)) := by
  obtain ⟨hv, hupd⟩ := (evTarget_counter ht).2 ((evTarget_counter ht).1.mp hty)
  refine ⟨hv, ?_, ?_⟩
  · unfold Reg.refreshed
    cases hs0 : p.reg.series? pl.2.1.name pl.2.1.labels with
    | none => exact laws.zero_ok
    | some s0 =>
      -- a registered name is served under its own type, so the old series is a counter series
      obtain ⟨t, ht0⟩ := Reg.type?_of_series? hs0
      exact (counterOk_iff hw).mp hok _ _ s0 (by rw [ht0, getOrCreate_type_eq hg ht0, hty]) hs0
  · rw [applied_series_self ht hg (Or.inr hw), hupd]

theorem CounterOkL_applied (laws : FloatLaws V) (hw : RegWF p.reg) (hok : CounterOk p.reg)
    (ht : evTarget p rx ev tags = some (c, pl)) (hg : p.reg.getOrCreate pl.1 pl.2.1 p.now = .ok (.ok reg)) :
    CounterOkL (appliedPipe p c pl reg).reg := by
  intro name L s hty hs
  by_cases hadr : name = pl.2.1.name ∧ L = pl.2.1.labels
  · obtain ⟨rfl, rfl⟩ := hadr
    rw [applied_type_self hg] at hty
    obtain ⟨hv, hr, hs'⟩ := applied_counter laws hw hok ht hg (Option.some.inj hty)
    rw [hs'] at hs
    exact Option.some.inj hs ▸ counterAdd_nonneg laws _ _ hr hv
  · rw [applied_series_frame ht hg name L hadr] at hs
    obtain ⟨t, ht0⟩ := Reg.type?_of_series? hs
    rw [(applied_grows ht hg).type ht0] at hty
    exact (counterOk_iff hw).mp hok name L s (by rw [ht0, hty]) hs

theorem CounterOk_handleEvent (laws : FloatLaws V) {p' : Pipe V} (hw : RegWF p.reg) (hok : CounterOk p.reg)
    (h : handleEvent p rx ev tags = some (.ok p')) : CounterOk p'.reg := by
  rcases handleEvent_ok_cases h with ⟨c', rfl, _⟩ | ⟨c, pl, reg, ht, hg, rfl⟩
  · exact hok
  · exact (counterOk_iff (RegWF_handleEvent hw h)).mpr (CounterOkL_applied laws hw hok ht hg)

end

theorem CounterOk_steps (laws : FloatLaws V) (rx : Rx) :
    StepInv rx (fun _ => True) (fun p : Pipe V => RegWF p.reg ∧ CounterOk p.reg) (fun _ => True) :=
  StepInv.ofOk (fun h hr => ⟨RegWF_handleEvent h.1 hr, CounterOk_handleEvent laws h.1 h.2 hr⟩)
    (fun p h => ⟨RegWF_sweep h.1 p.now, CounterOk_sweep h.2 p.now⟩) (fun _ _ h => h) (fun _ _ _ h => h)

theorem exposed_ok (laws : FloatLaws V) (s : Series V) (h : NonNeg s.f) : NonNeg (exposed s) :=
  laws.add_ok _ _ h (laws.ofNat_ok _)

/-- no increment of the series (name, L) wraps its integer accumulator along the events of a line -/
def NoWrapLine (rx : Rx) (tags : Labels) (name : Bytes) (L : Labels) : Pipe V → List (Ev V) → Prop
  | _, [] => True
  | p, e :: es =>
    (∀ c pl s0, evTarget p rx e tags = some (c, pl) → name = pl.2.1.name → L = pl.2.1.labels →
      p.reg.series? name L = some s0 → NoIntWrap s0 (evValue p rx e)) ∧
    ∀ p1, handleEvent p rx e tags = some (.ok p1) → NoWrapLine rx tags name L p1 es

end SE
