import SE.Spec.Mapping
/-
The trie search of the path-indexed glob FSM model (`SE/Model/Glob.lean`), through `dfsVisit`, the local `visit` of
`dfs`, as one recursive function. One theorem describes the backtracking search (`dfsVisit_bt`: exactly the final
paths that match the remaining fields, most specific first). Without backtracking the search reports a sublist of
that (`dfsVisit_sublist`), the same list when no node has the `*` child together with a literal child
(`dfsVisit_deterministic`).
-/
namespace SE

theorem globMatches_nil_nil : globMatches [] [] = true := by simp [globMatches]
theorem globMatches_nil_cons (b : Bytes) (bs : Pat) : globMatches [] (b :: bs) = false := by
  simp [globMatches]
theorem globMatches_cons_nil (a : Bytes) (as : Pat) : globMatches (a :: as) [] = false := by
  simp [globMatches]
theorem globMatches_cons_cons (a b : Bytes) (as bs : Pat) :
    globMatches (a :: as) (b :: bs) = ((a == starB || a == b) && globMatches as bs) := by
  simp only [globMatches, List.length_cons, List.zip_cons_cons, List.all_cons]
  cases (a == starB || a == b) <;> simp

theorem globMatches_length {p n : Pat} (h : globMatches p n = true) : p.length = n.length := by
  rw [globMatches, Bool.and_eq_true, beq_iff_eq] at h
  exact h.1

def dfsVisit (rs : TRules) (bt : Bool) (rest : List Bytes) (q : Pat) (caps' : List Bytes) : List Found :=
  match rest with
  | [] => match result rs q with
    | some r => [⟨r, caps'⟩]
    | none => []
  | _ :: _ => dfs rs bt q caps' rest

theorem dfsVisit_cons (rs : TRules) (bt : Bool) (f : Bytes) (rest : List Bytes) (p : Pat) (caps : List Bytes) :
    dfsVisit rs bt (f :: rest) p caps =
      if !hasChildren rs p then [] else
      if f != starB && okChild rs p f rest.length then
        dfsVisit rs bt rest (p ++ [f]) caps ++
          (if bt && okChild rs p starB rest.length then dfsVisit rs bt rest (p ++ [starB]) (caps ++ [f]) else [])
      else if okChild rs p starB rest.length then dfsVisit rs bt rest (p ++ [starB]) (caps ++ [f])
      else [] := by
  cases rest <;> rfl

theorem dfs_eq {rs : TRules} {bt : Bool} {p : Pat} {caps fields : List Bytes} (hne : fields ≠ []) :
    dfs rs bt p caps fields = dfsVisit rs bt fields p caps := by
  cases fields with
  | nil => exact absurd rfl hne
  | cons f rest => rfl

theorem mem_through {rs : TRules} {p : Pat} {r : Nat × Pat} :
    r ∈ through rs p ↔ r ∈ rs ∧ p <+: r.2 := by
  simp [through, List.mem_filter]

theorem nodeExists_iff {rs : TRules} {p : Pat} : nodeExists rs p = true ↔ ∃ r ∈ rs, p <+: r.2 := by
  simp only [nodeExists, Bool.not_eq_true', List.isEmpty_eq_false_iff_exists_mem, mem_through]

theorem hasChildren_iff {rs : TRules} {p : Pat} :
    hasChildren rs p = true ↔ ∃ r ∈ rs, p <+: r.2 ∧ p.length < r.2.length := by
  simp only [hasChildren, List.any_eq_true, mem_through, decide_eq_true_eq, and_assoc]

theorem rem_bounds {rs : TRules} {p : Pat} {r : Nat × Pat} (h : r ∈ rs) (hp : p <+: r.2) :
    minRem rs p ≤ r.2.length - p.length ∧ r.2.length - p.length ≤ maxRem rs p := by
  have hm : r.2.length - p.length ∈ (through rs p).map fun r => r.2.length - p.length :=
    List.mem_map.mpr ⟨r, mem_through.mpr ⟨h, hp⟩, rfl⟩
  have hmin : minRem rs p = ((through rs p).map fun r => r.2.length - p.length).min?.getD 0 := by
    unfold minRem
    cases (through rs p).map fun r => r.2.length - p.length <;> rfl
  rw [hmin, maxRem, List.foldl_max]
  exact ⟨List.min?_getD_le_of_mem hm, Nat.le_trans (List.le_max?_getD_of_mem hm) (Nat.le_max_right _ _)⟩

theorem okChild_of_mem {rs : TRules} {p : Pat} {c : Bytes} {ext : Pat} {i : Nat}
    (h : (i, p ++ c :: ext) ∈ rs) : okChild rs p c ext.length = true := by
  rw [List.append_cons] at h
  have hp : (p ++ [c]) <+: (i, p ++ [c] ++ ext).2 := List.prefix_append _ _
  have hb := rem_bounds h hp
  rw [List.length_append, Nat.add_sub_cancel_left] at hb
  simp [okChild, nodeExists_iff.mpr ⟨_, h, hp⟩, hb]

theorem hasChildren_of_okChild {rs : TRules} {p : Pat} {c : Bytes} {left : Nat}
    (h : okChild rs p c left = true) : hasChildren rs p = true := by
  simp only [okChild, Bool.and_eq_true] at h
  obtain ⟨r, hr, t, ht⟩ := nodeExists_iff.mp h.1.1
  exact hasChildren_iff.mpr ⟨r, hr, ⟨[c] ++ t, by rw [← ht, List.append_assoc]⟩, by rw [← ht]; simp⟩

theorem result_eq_some_iff {rs : TRules} {q : Pat} {i : Nat} :
    result rs q = some i ↔ ∃ as bs, rs = as ++ (i, q) :: bs ∧ ∀ a ∈ as, a.2 ≠ q := by
  simp only [result, Option.map_eq_some_iff, List.find?_eq_some_iff_append, beq_iff_eq, Bool.not_eq_true',
    beq_eq_false_iff_ne, ne_eq]
  constructor
  · rintro ⟨⟨j, q'⟩, ⟨hq, as, bs, h, has⟩, rfl⟩
    cases hq
    exact ⟨as, bs, h, has⟩
  · rintro ⟨as, bs, h, has⟩
    exact ⟨(i, q), ⟨rfl, as, bs, h, has⟩, rfl⟩

theorem result_some_mem {rs : TRules} {q : Pat} {i : Nat} (h : result rs q = some i) : (i, q) ∈ rs := by
  obtain ⟨as, bs, hrs, _⟩ := result_eq_some_iff.mp h
  rw [hrs]; simp

theorem result_isSome_of_mem {rs : TRules} {i : Nat} {pat : Pat} (h : (i, pat) ∈ rs) :
    ∃ j, result rs pat = some j :=
  Option.isSome_iff_exists.mp (by
    rw [result, Option.isSome_map, List.find?_isSome]
    exact ⟨_, h, beq_self_eq_true pat⟩)

/-- the patterns that match `fields`, in the order the backtracking search tries them: at every component the
    literal before the wildcard (a component that is literally `*` is matched by the wildcard only) -/
def cands : List Bytes → List Pat
  | [] => [[]]
  | f :: rest => (if f != starB then (cands rest).map (f :: ·) else []) ++ (cands rest).map (starB :: ·)

theorem cons_mem_map_cons {α} {a c : α} {x : List α} {l : List (List α)} :
    c :: x ∈ l.map (a :: ·) ↔ c = a ∧ x ∈ l := by
  rw [List.mem_map]
  exact ⟨fun ⟨y, hy, e⟩ => by cases e; exact ⟨rfl, hy⟩, fun ⟨e, hx⟩ => ⟨x, hx, by rw [e]⟩⟩

theorem mem_cands {fields : List Bytes} {ext : Pat} : ext ∈ cands fields ↔ globMatches ext fields = true := by
  induction fields generalizing ext with
  | nil => cases ext <;> simp [cands, globMatches_nil_nil, globMatches_cons_nil]
  | cons f rest ih =>
    cases ext with
    | nil => simp [cands, globMatches_nil_cons]
    | cons c ext =>
      rw [globMatches_cons_cons, Bool.and_eq_true, Bool.or_eq_true, beq_iff_eq, beq_iff_eq, ← ih,
        cands, List.mem_append, cons_mem_map_cons]
      by_cases hf : f = starB
      · rw [if_neg (by simp [hf]), hf, or_self]
        simp
      · rw [if_pos (by simpa using hf), cons_mem_map_cons, ← or_and_right, or_comm]

/-- the step with backtracking in two branches: the `hasChildren` test is implied by either `okChild` -/
theorem dfsVisit_cons_bt (rs : TRules) (f : Bytes) (rest : List Bytes) (p : Pat) (caps : List Bytes) :
    dfsVisit rs true (f :: rest) p caps =
      (if f != starB && okChild rs p f rest.length then dfsVisit rs true rest (p ++ [f]) caps else []) ++
      (if okChild rs p starB rest.length then dfsVisit rs true rest (p ++ [starB]) (caps ++ [f]) else []) := by
  rw [dfsVisit_cons]
  cases hch : hasChildren rs p
  · have hno : ∀ c, okChild rs p c rest.length = false := fun c =>
      Bool.eq_false_iff.mpr fun h => Bool.eq_false_iff.mp hch (hasChildren_of_okChild h)
    simp [hno]
  · cases (f != starB && okChild rs p f rest.length) <;> cases okChild rs p starB rest.length <;> simp

/-- The `[min,max]` length pruning cuts off no final path (`child`), and a field that is literally `*` takes the
    wildcard transition and is recorded like any other field (repair 0275669). -/
theorem dfsVisit_bt (rs : TRules) : ∀ (fields : List Bytes) (p : Pat) (caps : List Bytes),
    dfsVisit rs true fields p caps =
      (cands fields).filterMap fun ext => (result rs (p ++ ext)).map fun i => ⟨i, caps ++ capturesOf ext fields⟩
  | [], p, caps => by
    simp only [dfsVisit, cands, List.filterMap_cons, List.filterMap_nil, List.append_nil, capturesOf]
    cases result rs p <;> rfl
  | f :: rest, p, caps => by
    -- one child: entered iff it passes the test; if it does not, no final path runs through it
    have child : ∀ (c : Bytes) (caps' : List Bytes),
        ((cands rest).filterMap fun ext => (result rs (p ++ c :: ext)).map fun i =>
          (⟨i, caps' ++ capturesOf ext rest⟩ : Found)) =
        if okChild rs p c rest.length then dfsVisit rs true rest (p ++ [c]) caps' else [] := by
      intro c caps'
      by_cases hok : okChild rs p c rest.length = true
      · rw [if_pos hok, dfsVisit_bt rs rest (p ++ [c]) caps']
        simp only [List.append_assoc, List.singleton_append]
      · rw [if_neg hok, List.filterMap_eq_nil_iff]
        intro ext hext
        rw [Option.map_eq_none_iff, Option.eq_none_iff_forall_ne_some]
        intro i hr
        exact hok (globMatches_length (mem_cands.mp hext) ▸ okChild_of_mem (result_some_mem hr))
    rw [dfsVisit_cons_bt, cands, List.filterMap_append, List.filterMap_map]
    congr 1
    · cases hf : (f != starB)
      · rfl
      · have hf' : (f == starB) = false := (Bool.not_eq_true' _).mp hf
        simp only [Bool.true_and, if_true, List.filterMap_map]
        rw [← child f caps]
        simp only [Function.comp_def, capturesOf, hf', Bool.false_eq_true, if_false]
    · rw [← child starB (caps ++ [f])]
      simp only [Function.comp_def, capturesOf, beq_self_eq_true, if_true, List.append_assoc,
        List.singleton_append]

/-- `hne`: a name without fields is never searched, whatever rule has the empty pattern -/
theorem dfs_root_bt (rs : TRules) {name : Pat} (hne : name ≠ []) :
    dfs rs true [] [] name =
      (cands name).filterMap fun pat => (result rs pat).map fun i => ⟨i, capturesOf pat name⟩ := by
  rw [dfs_eq hne, dfsVisit_bt]
  simp only [List.nil_append]

theorem mem_dfs_root {rs : TRules} {name : Pat} {f : Found} (hne : name ≠ []) :
    f ∈ dfs rs true [] [] name ↔
      ∃ pat, globMatches pat name = true ∧ result rs pat = some f.rule ∧ f.caps = capturesOf pat name := by
  simp only [dfs_root_bt rs hne, List.mem_filterMap, mem_cands, Option.map_eq_some_iff]
  constructor
  · rintro ⟨pat, hm, i, hi, rfl⟩
    exact ⟨pat, hm, hi, rfl⟩
  · rintro ⟨pat, hm, hr, hc⟩
    exact ⟨pat, hm, f.rule, hr, by rw [← hc]⟩

theorem dfs_root_eq_nil {rs : TRules} {name : Pat} (hne : name ≠ []) :
    dfs rs true [] [] name = [] ↔ rs.filter (fun r => globMatches r.2 name) = [] := by
  rw [List.eq_nil_iff_forall_not_mem, List.filter_eq_nil_iff]
  constructor
  · rintro h ⟨i, pat⟩ hr hm
    obtain ⟨j, hj⟩ := result_isSome_of_mem hr
    exact h ⟨j, _⟩ ((mem_dfs_root hne).mpr ⟨pat, hm, hj, rfl⟩)
  · intro h f hf
    obtain ⟨pat, hm, hr, _⟩ := (mem_dfs_root hne).mp hf
    exact h _ (result_some_mem hr) hm

theorem dfsVisit_sublist (rs : TRules) : ∀ (fields : List Bytes) (p : Pat) (caps : List Bytes),
    (dfsVisit rs false fields p caps).Sublist (dfsVisit rs true fields p caps)
  | [], p, caps => List.Sublist.refl _
  | f :: rest, p, caps => by
    rw [dfsVisit_cons, dfsVisit_cons, Bool.false_and, Bool.true_and, if_neg Bool.false_ne_true, List.append_nil]
    cases (!hasChildren rs p) with
    | true => exact List.Sublist.refl []
    | false =>
      cases (f != starB && okChild rs p f rest.length) with
      | true => exact (dfsVisit_sublist rs rest _ _).trans (List.sublist_append_left _ _)
      | false =>
        cases okChild rs p starB rest.length with
        | true => exact dfsVisit_sublist rs rest _ _
        | false => exact List.Sublist.refl []

theorem dfs_root_sound {rs : TRules} {bt : Bool} {name : Pat} {f : Found} (h : f ∈ dfs rs bt [] [] name) :
    ∃ pat, globMatches pat name = true ∧ result rs pat = some f.rule ∧ f.caps = capturesOf pat name := by
  have hne : name ≠ [] := by rintro rfl; cases h
  refine (mem_dfs_root hne).mp ?_
  cases bt with
  | true => exact h
  | false =>
    rw [dfs_eq hne] at h ⊢
    exact (dfsVisit_sublist rs name [] []).subset h

theorem dfsVisit_caps (rs : TRules) (bt : Bool) : ∀ (fields : List Bytes) (p : Pat) (caps : List Bytes),
    dfsVisit rs bt fields p caps = (dfsVisit rs bt fields p []).map fun f => ⟨f.rule, caps ++ f.caps⟩
  | [], p, caps => by
    simp only [dfsVisit]
    cases result rs p <;> simp
  | fd :: rest, p, caps => by
    rw [dfsVisit_cons, dfsVisit_cons, dfsVisit_caps rs bt rest _ caps, dfsVisit_caps rs bt rest _ (caps ++ [fd]),
      dfsVisit_caps rs bt rest _ ([] ++ [fd])]
    simp only [apply_ite (List.map _), List.map_append, List.map_nil, List.map_map, Function.comp_def,
      List.nil_append, List.append_assoc]

theorem dfsVisit_nil_caps {rs : TRules} {bt : Bool} {rest : List Bytes} {q : Pat} {c : List Bytes}
    (c' : List Bytes) (h : dfsVisit rs bt rest q c = []) : dfsVisit rs bt rest q c' = [] := by
  rw [dfsVisit_caps, List.map_eq_nil_iff] at h
  rw [dfsVisit_caps, h]; rfl

/-! ### a trie that is not ambiguous is searched deterministically

The repaired `BacktrackingNeeded` flag is `TestIfNeedBacktracking(...) || FSM.HasAmbiguousTransitions()`. When the
trie of a type root is not ambiguous (`ambiguousAt rs = false`: no node has the `*` child together with a literal
child), at every node at most one child can be entered, so the flag does not matter. A metric field that is
literally `*` is no exception: since repair 0275669 it is not taken for the literal transition. -/

theorem ambiguousAt_of_children {rs : TRules} {p : Pat} {f : Bytes} {r1 r2 : Nat × Pat}
    (h1 : r1 ∈ rs) (h2 : r2 ∈ rs) (hp1 : (p ++ [starB]) <+: r1.2) (hp2 : (p ++ [f]) <+: r2.2)
    (hf : f ≠ starB) : ambiguousAt rs = true := by
  obtain ⟨t1, ht1⟩ := hp1
  obtain ⟨t2, ht2⟩ := hp2
  simp only [ambiguousAt, List.any_eq_true, List.mem_range, Bool.and_eq_true]
  exact ⟨r1, h1, p.length, by simp [← ht1], by simp [← ht1], r2, h2, by simp [← ht1, ← ht2, hf]⟩

theorem okChild_star_unique {rs : TRules} (hna : ambiguousAt rs = false) {p : Pat} {f : Bytes}
    {left left' : Nat} (h1 : okChild rs p f left = true) (h2 : okChild rs p starB left' = true) :
    f = starB := by
  simp only [okChild, Bool.and_eq_true] at h1 h2
  obtain ⟨r2, hr2, hp2⟩ := nodeExists_iff.mp h1.1.1
  obtain ⟨r1, hr1, hp1⟩ := nodeExists_iff.mp h2.1.1
  refine Decidable.by_contra fun hf => ?_
  rw [ambiguousAt_of_children hr1 hr2 hp1 hp2 hf] at hna
  cases hna

theorem dfsVisit_deterministic (rs : TRules) (hna : ambiguousAt rs = false) (bt : Bool) :
    ∀ (fields : List Bytes) (p : Pat) (caps : List Bytes),
      dfsVisit rs bt fields p caps = dfsVisit rs true fields p caps
  | [], p, caps => rfl
  | fd :: rest, p, caps => by
    rw [dfsVisit_cons, dfsVisit_cons, dfsVisit_deterministic rs hna bt rest, dfsVisit_deterministic rs hna bt rest]
    cases hokf : (fd != starB && okChild rs p fd rest.length) with
    | false => rfl
    | true =>
      -- a literal child (`fd ≠ *`) together with the `*` child: impossible in a non-ambiguous trie
      rw [Bool.and_eq_true] at hokf
      cases hoks : okChild rs p starB rest.length with
      | false => rw [Bool.and_false, Bool.and_false]
      | true => exact absurd (okChild_star_unique hna hokf.2 hoks) (by simpa using hokf.1)

theorem dfs_deterministic (rs : TRules) (hna : ambiguousAt rs = false) (bt : Bool) (p : Pat)
    (caps fields : List Bytes) : dfs rs bt p caps fields = dfs rs true p caps fields := by
  cases fields with
  | nil => rfl
  | cons f rest => exact dfsVisit_deterministic rs hna bt (f :: rest) p caps

theorem dfs_head_deterministic (rs : TRules) (hna : ambiguousAt rs = false) :
    ∀ (fields : List Bytes) (p : Pat) (caps : List Bytes),
      (dfs rs false p caps fields).head? = (dfs rs true p caps fields).head? :=
  fun fields p caps => by rw [dfs_deterministic rs hna]

theorem pick_dfs_bt_irrelevant (rs : TRules) (hna : ambiguousAt rs = false) (bt : Bool) (name : Pat) :
    pick false (dfs rs bt [] [] name) = pick false (dfs rs true [] [] name) := by
  rw [dfs_deterministic rs hna]

end SE
