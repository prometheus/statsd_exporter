import SE.Proofs.RegistryPipe
/-
The operations that register nothing — `touch`, `updateSeries`, the sweep — leave every metric entry its name, type and
vectors (`Reg.EntriesOf`), and every remaining series has the label names of a series that was there (`Reg.Within`).
A registry predicate that reads only names, types and vectors (`NamesLegal`, `SuffixFree`, `HelpUniform`, `VecsSafe`)
is antitone in the first, one that also reads label names (`LabelsOk`, `gatherOk`) in the second.
-/
set_option linter.unusedSectionVars false
namespace SE
variable {V : Type} [NumOps V]

def MetricM.SameEntry (m' m : MetricM V) : Prop := m'.name = m.name ∧ m'.ty = m.ty ∧ m'.vecs = m.vecs

/-- Weaker than "the series of `m'` are among those of `m`": a new child of a vector that already has a child is
    within as well, which is what `gatherOk_getOrCreate_live_vec` uses. -/
def MetricM.Within (m' m : MetricM V) : Prop :=
  m'.SameEntry m ∧ ∀ s', s' ∈ m'.series → ∃ s, s ∈ m.series ∧ s'.labels.map (·.1) = s.labels.map (·.1)

def Reg.EntriesOf (r' r : Reg V) : Prop := ∀ m', m' ∈ r'.metrics → ∃ m, m ∈ r.metrics ∧ m'.SameEntry m

def Reg.Within (r' r : Reg V) : Prop :=
  r'.pre = r.pre ∧ ∀ m', m' ∈ r'.metrics → ∃ m, m ∈ r.metrics ∧ m'.Within m

theorem Reg.Within.entries {r' r : Reg V} (h : r'.Within r) : r'.EntriesOf r := fun m' hm' => by
  obtain ⟨m, hm, hw, _⟩ := h.2 m' hm'
  exact ⟨m, hm, hw⟩

theorem within_updateMetric (r : Reg V) (name : Bytes) {f : MetricM V → MetricM V} (he : ∀ m, (f m).SameEntry m)
    (hl : ∀ m, (f m).series.map (·.labels) = m.series.map (·.labels)) : (updateMetric r name f).Within r :=
  ⟨rfl, fun m' hm' => by
    obtain ⟨m, hm, ⟨_, rfl⟩ | ⟨_, rfl⟩⟩ := mem_updateMetric hm'
    · refine ⟨m, hm, he m, fun s' hs' => ?_⟩
      obtain ⟨s, hs, e⟩ := List.mem_map.mp (hl m ▸ List.mem_map_of_mem hs')
      exact ⟨s, hs, by rw [e]⟩
    · exact ⟨_, hm, ⟨rfl, rfl, rfl⟩, fun s hs => ⟨s, hs, rfl⟩⟩⟩

theorem within_sweep (r : Reg V) (now : Int) : (r.sweep now).Within r :=
  ⟨rfl, fun m' hm' => by
    obtain ⟨m, hm, rfl⟩ := List.mem_map.mp hm'
    exact ⟨m, hm, ⟨rfl, rfl, rfl⟩, fun s hs => ⟨s, (List.mem_filter.mp hs).1, rfl⟩⟩⟩

theorem within_touch (r : Reg V) (a : GetArgs V) (now : Int) : (r.touch a now).Within r :=
  within_updateMetric r a.name (fun _ => ⟨rfl, rfl, rfl⟩) (touchEntry_labels a now)

theorem within_updateSeries (r : Reg V) (name : Bytes) (labels : Labels) {f : VecM V → Series V → Series V}
    (hf : ∀ v s, (f v s).labels = s.labels) : (updateSeries r name labels f).Within r :=
  within_updateMetric r name (fun _ => ⟨rfl, rfl, rfl⟩) (updSeriesIn_labels labels f hf)

theorem entriesOf_touch (r : Reg V) (a : GetArgs V) (now : Int) : (r.touch a now).EntriesOf r := (within_touch r a now).entries

theorem entriesOf_updateSeries (r : Reg V) (name : Bytes) (labels : Labels) (f : VecM V → Series V → Series V) :
    (updateSeries r name labels f).EntriesOf r := fun m' hm' => by
  obtain ⟨m, hm, ⟨_, rfl⟩ | ⟨_, rfl⟩⟩ := mem_updateMetric hm'
  · exact ⟨m, hm, rfl, rfl, rfl⟩
  · exact ⟨_, hm, rfl, rfl, rfl⟩

theorem entriesOf_sweep (r : Reg V) (now : Int) : (r.sweep now).EntriesOf r := (within_sweep r now).entries

theorem entriesOf_sweep_rev (r : Reg V) (now : Int) : r.EntriesOf (r.sweep now) := fun _ hm =>
  ⟨_, List.mem_map_of_mem hm, rfl, rfl, rfl⟩

end SE
