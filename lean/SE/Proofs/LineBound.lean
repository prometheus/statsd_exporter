import SE.Proofs.Line
/-
How much one line can produce (SE/Model/Line.lean): the number of samples of a line is bounded by its
length, and every sample contributes at most `M` events, where `M` bounds the repetition counts
`int(1/rate)` that the `|@rate` components of the line can set. So the sampling multiplicity is the only
way a line can produce more events than it has bytes (cf. SE/Props/C02.lean, finding
`sampling_multiplicity_unbounded`).
-/
namespace SE
variable {V : Type} [NumOps V]

/-- the repetition count that a component `@b` sets for a timer/histogram/distribution sample:
    Go `int(1 / samplingFactor)` with `samplingFactor` the parsed rate, replaced by 1 if it is 0 -/
@[reducible] def rateMult (pf : Pf V) (b : Bytes) : Nat :=
  (NumOps.recipInt (if NumOps.isZero (pf b).1 then NumOps.one else (pf b).1)).toNat

theorem foldl_rateCopies_le (pf : Pf V) (st : StatType) (M : Nat) (hM : ∀ b : Bytes, rateMult pf b ≤ M)
    (cs : List Bytes) (n : Int) (h : n.toNat ≤ M) :
    (cs.foldl (fun n c => rateCopies st n (compRate pf c)) n).toNat ≤ M := by
  refine List.foldlRecOn (motive := fun k : Int => k.toNat ≤ M) cs _ h fun k hk c _ => ?_
  -- a component `@r` sets an observer's count to `int(1/rate)`; everything else leaves the count alone
  rcases c with _ | ⟨b, r⟩
  · exact hk
  · have : (NumOps.recipInt (effRate (pf r).1)).toNat ≤ M := hM r
    simp only [compRate]; split
    · simp only [rateCopies]; split
      · exact this
      · exact hk
    · exact hk

omit [NumOps V] in
theorem flatMap_compErrs_length (pf : Pf V) (cs : List Bytes) : (cs.flatMap (compErrs pf)).length ≤ cs.length := by
  induction cs with
  | nil => simp
  | cons c cs ih =>
    have : (compErrs pf c).length ≤ 1 := by
      unfold compErrs; split
      · simp
      · split
        · split <;> simp
        · split <;> simp
    simp only [List.flatMap_cons, List.length_append, List.length_cons]; omega

theorem emit_length (st : StatType) (m : Bytes) (x : V) (rel : Bool) (n : Nat) :
    (emit st m x rel n).1.length ≤ n ∧ (emit st m x rel n).2.length ≤ n := by
  unfold emit; split <;> simp

/-- `M + 2`: at most two components with one error each, and `M` `illegal_event` increments -/
theorem effect_bound (fl : ParserFlags) (pf : Pf V) (m : Bytes) (M : Nat) (hM1 : 1 ≤ M)
    (hM : ∀ b : Bytes, rateMult pf b ≤ M) (s : Bytes) :
    (effect fl pf m s).events.length ≤ M ∧ (effect fl pf m s).errs.length ≤ M + 2 := by
  rcases effect_cases fl pf m s with ⟨_, r, e⟩ | ⟨_, v, t, extra, e, _, hl, _⟩
  · rw [e]; exact ⟨Nat.zero_le _, by simp⟩
  · rw [e]
    have hn := foldl_rateCopies_le pf (statTypeOf t) M hM extra 1 (by simpa using hM1)
    have := flatMap_compErrs_length pf extra
    obtain ⟨a, b⟩ := emit_length (statTypeOf t) m
      (extra.foldl (fun x c => rateValue (statTypeOf t) x (compRate pf c)) (pf v).1) (signedValue v)
      (extra.foldl (fun n c => rateCopies (statTypeOf t) n (compRate pf c)) 1).toNat
    simp only [acceptedEffect, List.length_append]
    omega

structure LoopBound (M : Nat) (o : ParseOut V) : Prop where
  events : o.events.length ≤ o.samples * M
  errs : o.errs.length ≤ o.samples * (M + 2)

theorem parseSample_loopBound (fl : ParserFlags) (pf : Pf V) (m : Bytes) (M : Nat) (hM1 : 1 ≤ M)
    (hM : ∀ b : Bytes, rateMult pf b ≤ M) (o : ParseOut V) (s : Bytes) (h : LoopBound M o) :
    LoopBound M (parseSample fl pf m o s) := by
  obtain ⟨h1, h2⟩ := h
  obtain ⟨a, b⟩ := effect_bound fl pf m M hM1 hM s
  rw [parseSample_eq]
  constructor
  · simp only [after, List.length_append, Nat.add_mul]; omega
  · simp only [after, List.length_append, Nat.add_mul]; omega

theorem foldl_parseSample_loopBound (fl : ParserFlags) (pf : Pf V) (m : Bytes) (M : Nat) (hM1 : 1 ≤ M)
    (hM : ∀ b : Bytes, rateMult pf b ≤ M) (ss : List Bytes) (o : ParseOut V) (h : LoopBound M o) :
    LoopBound M (ss.foldl (parseSample fl pf m) o) :=
  List.foldlRecOn ss _ h fun o h s _ => parseSample_loopBound fl pf m M hM1 hM o s h

omit [NumOps V] in
theorem startSt_loopBound (M : Nat) (L : Labels) (E : Nat) : LoopBound M (startSt L E : ParseOut V) :=
  ⟨by simp [startSt], by simp [startSt]⟩

theorem samples_lt_length (fl : ParserFlags) (pf : Pf V) (valid : Bool) (line : Bytes) (hne : line ≠ []) :
    (lineToEvents fl pf valid line).samples < line.length := by
  rcases lineToEvents_shape fl pf valid line with ⟨_, b, _⟩ | ⟨m, L, E, ss, hs, hn⟩
  · rw [b]; cases line with
    | nil => exact absurd rfl hne
    | cons => simp
  · rw [hs, (foldl_parseSample fl pf m ss _).2.2.1]
    simpa [startSt] using hn

theorem events_le_samples_mul (fl : ParserFlags) (pf : Pf V) (valid : Bool) (line : Bytes) (M : Nat) (hM1 : 1 ≤ M)
    (hM : ∀ b : Bytes, rateMult pf b ≤ M) :
    (lineToEvents fl pf valid line).events.length ≤ (lineToEvents fl pf valid line).samples * M := by
  rcases lineToEvents_shape fl pf valid line with ⟨a, _, _⟩ | ⟨m, L, E, ss, hs, _⟩
  · rw [a]; simp
  · rw [hs]
    exact (foldl_parseSample_loopBound fl pf m M hM1 hM ss _ (startSt_loopBound M L E)).events

/-- `max 1`: a line rejected as a whole counts no sample and one error -/
theorem errs_le_samples_mul (fl : ParserFlags) (pf : Pf V) (valid : Bool) (line : Bytes) (M : Nat) (hM1 : 1 ≤ M)
    (hM : ∀ b : Bytes, rateMult pf b ≤ M) :
    (lineToEvents fl pf valid line).errs.length ≤ max 1 ((lineToEvents fl pf valid line).samples * (M + 2)) := by
  rcases lineToEvents_shape fl pf valid line with ⟨_, _, c⟩ | ⟨m, L, E, ss, hs, _⟩
  · omega
  · rw [hs]
    have := (foldl_parseSample_loopBound fl pf m M hM1 hM ss _ (startSt_loopBound M L E)).errs
    omega

end SE
