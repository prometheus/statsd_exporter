import SE.Driver.Queue
import SE.Proofs.Queue
/-
The driver (SE/Driver/Queue.lean) runs a `q <n>` operation through the micro-step machine with `runCall`, a
fuel-bounded loop that follows producer 0's program counter. `runCall` executes the canonical schedule `callSched`,
hence by `call_body_bridge` computes what the call-level function `queueCall` says.
-/
namespace SE.Driver
open SE

theorem runCall_eq_canonical {batch : List Nat} {s : QSt Nat} {todo : List (List Nat)} {fuel : Nat}
    (hp : s.prods[0]? = some ⟨todo, .holding batch⟩) (hf : 2 * batch.length + 1 ≤ fuel) :
    runCall s fuel = qRun s (callSched 0 s.thr s.q.length batch) := by
  induction batch generalizing s fuel with
  | nil =>
    obtain ⟨f, rfl⟩ := Nat.exists_eq_add_one_of_ne_zero (Nat.ne_zero_of_lt hf)
    simp only [runCall, hp, callSched, qRun, List.isEmpty_nil, if_true]
    cases qStep s (.release 0) <;> rfl
  | cons e rest ih =>
    obtain ⟨f, rfl⟩ := Nat.exists_eq_add_one_of_ne_zero (Nat.ne_zero_of_lt hf)
    -- of the two steps of fuel counted for `e`, the append has taken one
    have hf : 2 * rest.length + 2 ≤ f := Nat.le_of_succ_le_succ hf
    have hp' {pc : QPc Nat} : (s.prods.set 0 ⟨todo, pc⟩)[0]? = some ⟨todo, pc⟩ := getElem?_set_self_of_some hp
    by_cases hge : s.q.length + 1 ≥ s.thr
    · obtain ⟨f', rfl⟩ := Nat.exists_eq_add_one_of_ne_zero (Nat.ne_zero_of_lt hf)
      simp only [callSched, if_pos hge, runCall, hp, List.isEmpty_cons, Bool.false_eq_true, if_false, qRun,
        qStep_iff.2 (.appendFull hp hge), Option.bind_some, hp']
      by_cases hcs : s.chan.length < s.cap
      · rw [qStep_iff.2 (.send (s := { s with prods := s.prods.set 0 ⟨todo, .sending rest⟩, q := s.q ++ [e] })
          hp' hcs)]
        simp only [Option.bind_some, List.set_set]
        exact ih hp' (Nat.le_of_succ_le_succ hf)
      · -- the send is blocked: both the driver's loop and the schedule stop here
        rw [qStep_eq_none (s := { s with prods := s.prods.set 0 ⟨todo, .sending rest⟩, q := s.q ++ [e] })
          fun s' hq => by cases hq with | send _ hroom => exact hcs hroom]
        rfl
    · simp only [callSched, if_neg hge, runCall, hp, List.isEmpty_cons, Bool.false_eq_true, if_false, qRun,
        qStep_iff.2 (.append hp (Nat.lt_of_not_ge hge)), Option.bind_some]
      rw [← show (s.q ++ [e]).length = s.q.length + 1 from List.length_append]
      exact ih hp' (Nat.le_of_succ_le hf)

end SE.Driver
