import SE.Spec.History
import SE.Proofs.ListLemmas
import SE.Proofs.Bytes
/-
The mapping cache (C13, used again by C14). `Cache.get` leaves the cache as it is or moves the entry found to the
front, `Cache.add` leaves a sublist of "the new entry, then the old entries under other keys": from these two facts,
that neither invents entries (so every entry stays the mapper's own answer, `CacheSound`) and that keys stay unique
and within the size (`Cache.WF`). A cached run over a history then answers like the run without cache
(`runCached_eq_runPlain`). At the head, what C13's `formatKey_injective` needs about the string key.
-/
namespace SE
variable {A V : Type}

/-- the type prefix of `formatKey` -/
def tyStr (t : Nat) : Bytes := match t with | 0 => strCounter | 1 => strGauge | _ => strObserver

theorem formatKey_eq (k : CKey) : formatKey k = tyStr k.1 ++ 46 :: k.2 := rfl

theorem tyStr_table : ∀ a < 3, (46 : UInt8) ∉ tyStr a ∧ ∀ b < 3, tyStr a = tyStr b → a = b := by decide +kernel

theorem append_sep_inj {sep : UInt8} {a b c d : Bytes} (ha : sep ∉ a) (hc : sep ∉ c)
    (h : a ++ sep :: b = c ++ sep :: d) : a = c ∧ b = d := by
  have hcut := cut_append b ha
  rw [h, cut_append d hc] at hcut
  exact Prod.mk.inj (Option.some.inj hcut.symm)

theorem key_not_mem_filter (l : List (CKey × A)) (k : CKey) : k ∉ (l.filter (·.1 != k)).map (·.1) := by
  intro h
  obtain ⟨x, hx, rfl⟩ := List.mem_map.mp h
  exact bne_iff_ne.mp (List.mem_filter.mp hx).2 rfl

theorem moveToFront_perm {l : List (CKey × A)} {k : CKey} {kv : CKey × A} (h : (l.map (·.1)).Nodup)
    (hf : l.find? (·.1 == k) = some kv) : (kv :: l.filter (·.1 != k)).Perm l := by
  obtain ⟨hk, as, bs, rfl, has⟩ := List.find?_eq_some_iff_append.mp hf
  have has : ∀ x ∈ as, (x.1 != k) = true := has
  rw [List.map_append, List.map_cons, List.nodup_append] at h
  -- unique keys: no entry after `kv` has its key
  have hbs : ∀ x ∈ bs, (x.1 != k) = true := fun x hx => bne_iff_ne.mpr fun e =>
    (List.nodup_cons.mp h.2.1).1 (by rw [beq_iff_eq.mp hk, ← e]; exact List.mem_map_of_mem hx)
  rw [List.filter_append, List.filter_cons_of_neg (by rw [bne, hk]; exact Bool.false_ne_true),
    List.filter_eq_self.mpr has, List.filter_eq_self.mpr hbs]
  exact List.perm_middle.symm

theorem Cache.get_fst (c : Cache A) (k : CKey) :
    (c.get k).1 = c ∨ ∃ kv, c.items.find? (·.1 == k) = some kv ∧
      (c.get k).1 = { c with items := kv :: c.items.filter (·.1 != k) } := by
  unfold Cache.get
  split
  · exact .inl rfl
  · cases c.items.find? (·.1 == k) with
    | none => exact .inl rfl
    | some kv => exact .inr ⟨kv, rfl, rfl⟩
  · exact .inl rfl

theorem Cache.get_snd (c : Cache A) (k : CKey) :
    (c.get k).2 = if c.kind = 0 then none else (c.items.find? (·.1 == k)).map (·.2) := by
  unfold Cache.get
  split
  · rw [if_pos ‹_›]
  · rw [if_neg (by omega)]
    cases c.items.find? (·.1 == k) <;> rfl
  · rw [if_neg ‹_›]

theorem Cache.get_kind (c : Cache A) (k : CKey) : (c.get k).1.kind = c.kind := by
  rcases c.get_fst k with h | ⟨_, _, h⟩ <;> rw [h]

theorem Cache.get_size (c : Cache A) (k : CKey) : (c.get k).1.size = c.size := by
  rcases c.get_fst k with h | ⟨_, _, h⟩ <;> rw [h]

theorem Cache.get_items_perm (c : Cache A) (k : CKey) (h : (c.items.map (·.1)).Nodup) :
    (c.get k).1.items.Perm c.items := by
  rcases c.get_fst k with e | ⟨kv, hf, e⟩ <;> rw [e]
  exact moveToFront_perm h hf

theorem Cache.get_items_sub (c : Cache A) (k : CKey) : ∀ x, x ∈ (c.get k).1.items → x ∈ c.items := by
  rcases c.get_fst k with e | ⟨kv, hf, e⟩ <;> rw [e]
  · exact fun _ h => h
  · exact List.cons_subset.mpr ⟨List.mem_of_find?_eq_some hf, List.filter_sublist.subset⟩

theorem Cache.get_some {c : Cache A} {k : CKey} {a : A} (h : (c.get k).2 = some a) :
    c.kind ≠ 0 ∧ (k, a) ∈ c.items := by
  rw [Cache.get_snd] at h
  split at h
  · cases h
  · next hk =>
    obtain ⟨kv, hf, rfl⟩ := Option.map_eq_some_iff.mp h
    have hkv := List.find?_some hf
    rw [← beq_iff_eq.mp hkv]
    exact ⟨hk, List.mem_of_find?_eq_some hf⟩

theorem Cache.get_of_mem {c : Cache A} {k : CKey} {a : A} (h : (c.items.map (·.1)).Nodup) (hk : c.kind ≠ 0)
    (hm : (k, a) ∈ c.items) : (c.get k).2 = some a := by
  rw [Cache.get_snd, if_neg hk, ListLemmas.find?_key_of_mem (·.1) _ h (k, a) hm]
  rfl

theorem Cache.add_items (c : Cache A) (k : CKey) (a : A) (ch : Nat) :
    c.kind = 0 ∧ c.add k a ch = c ∨
    ∃ l, c.add k a ch = { c with items := l } ∧ l.Sublist ((k, a) :: c.items.filter (·.1 != k)) ∧
      (c.items.length ≤ c.size → l.length ≤ c.size) := by
  unfold Cache.add
  split
  · exact .inl ⟨‹_›, rfl⟩
  · right
    split
    · rename_i hany
      -- the filter removes the entry that was found
      obtain ⟨x, hx, hxk⟩ := List.any_eq_true.mp hany
      have hlt : (c.items.filter (·.1 != k)).length < c.items.length :=
        List.length_filter_lt_length_iff_exists.mpr ⟨x, hx, fun h => bne_iff_ne.mp h (beq_iff_eq.mp hxk)⟩
      exact ⟨_, rfl, .refl _, Nat.lt_of_lt_of_le hlt⟩
    · rename_i hany
      -- no entry under `k`: the filter removes nothing
      rw [List.filter_eq_self.mpr fun x hx => bne_iff_ne.mpr fun e =>
        hany (List.any_eq_true.mpr ⟨x, hx, beq_iff_eq.mpr e⟩)]
      refine ⟨_, rfl, ?_⟩
      split
      · exact ⟨List.dropLast_sublist _, fun hb => by rwa [List.length_dropLast_cons]⟩
      · exact ⟨.refl _, fun _ => Nat.le_of_not_gt ‹_›⟩
  · refine .inr ⟨_, rfl, ?_⟩
    split
    · refine ⟨List.eraseIdx_sublist _ _, fun hb => ?_⟩
      rw [List.length_eraseIdx_of_lt (Nat.mod_lt _ (by simp))]
      exact Nat.le_trans (List.length_filter_le _ _) hb
    · exact ⟨.refl _, fun _ => Nat.le_of_not_gt ‹_›⟩

theorem Cache.add_kind (c : Cache A) (k : CKey) (a : A) (ch : Nat) : (c.add k a ch).kind = c.kind := by
  rcases c.add_items k a ch with ⟨_, e⟩ | ⟨_, e, _⟩ <;> rw [e]

theorem Cache.add_size (c : Cache A) (k : CKey) (a : A) (ch : Nat) : (c.add k a ch).size = c.size := by
  rcases c.add_items k a ch with ⟨_, e⟩ | ⟨_, e, _⟩ <;> rw [e]

theorem Cache.add_items_sub (c : Cache A) (k : CKey) (a : A) (ch : Nat) :
    ∀ x, x ∈ (c.add k a ch).items → x = (k, a) ∨ x ∈ c.items := by
  rcases c.add_items k a ch with ⟨_, e⟩ | ⟨l, e, hs, _⟩ <;> rw [e]
  · exact fun _ => .inr
  · exact fun x hx => (List.mem_cons.mp (hs.subset hx)).imp_right fun h => (List.mem_filter.mp h).1

/-- not `(k, a) ∈ items`: the new entry may be the one evicted -/
theorem Cache.add_items_key (c : Cache A) (k : CKey) (a v : A) (ch : Nat) (hk : c.kind ≠ 0)
    (hm : (k, v) ∈ (c.add k a ch).items) : v = a := by
  rcases c.add_items k a ch with ⟨h0, _⟩ | ⟨l, e, hs, _⟩
  · exact absurd h0 hk
  · rw [e] at hm
    rcases List.mem_cons.mp (hs.subset hm) with h | h
    · exact (Prod.mk.inj h).2
    · exact absurd (List.mem_map_of_mem (f := (·.1)) h) (key_not_mem_filter _ _)

theorem Cache.reset_items (c : Cache A) : c.reset.items = [] := rfl
theorem Cache.reset_kind (c : Cache A) : c.reset.kind = c.kind := rfl
theorem Cache.reset_size (c : Cache A) : c.reset.size = c.size := rfl

structure Cache.WF (c : Cache A) : Prop where
  nodup : (c.items.map (·.1)).Nodup
  bound : c.kind ≠ 0 → c.items.length ≤ c.size

theorem Cache.get_wf (c : Cache A) (k : CKey) (h : c.WF) : (c.get k).1.WF := by
  have hp := c.get_items_perm k h.nodup
  refine ⟨(hp.map _).nodup_iff.mpr h.nodup, fun hk => ?_⟩
  rw [hp.length_eq, Cache.get_size]
  exact h.bound (Cache.get_kind c k ▸ hk)

theorem Cache.add_wf (c : Cache A) (k : CKey) (a : A) (ch : Nat) (h : c.WF) : (c.add k a ch).WF := by
  rcases c.add_items k a ch with ⟨_, e⟩ | ⟨l, e, hs, hl⟩ <;> rw [e]
  · exact h
  · -- the new entry and the old ones under other keys have distinct keys
    exact ⟨(hs.map _).nodup (List.nodup_cons.mpr
      ⟨key_not_mem_filter _ k, (List.filter_sublist.map _).nodup h.nodup⟩), fun hk => hl (h.bound hk)⟩

theorem Cache.reset_wf (c : Cache A) : c.reset.WF := ⟨List.nodup_nil, fun _ => Nat.zero_le _⟩

/-- the C13 invariant: every entry of a real cache (`kind ≠ 0`) is the answer the current mapper object would give
    for that (type, name) -/
def CacheSound (rx : Rx) (m : CachedMapper V) : Prop :=
  m.cache.kind ≠ 0 → ∀ (k : CKey) (r : Option Mapped), (k, r) ∈ m.cache.items → r = m.st.lookup rx k.2 k.1

theorem cacheSound_of_empty (rx : Rx) (m : CachedMapper V) (h : m.cache.items = []) : CacheSound rx m := by
  intro _ k r hm; rw [h] at hm; cases hm

theorem cacheSound_of_kind0 (rx : Rx) (m : CachedMapper V) (h : m.cache.kind = 0) : CacheSound rx m :=
  fun h' => absurd h h'

theorem CachedMapper.lookup_cases (m : CachedMapper V) (rx : Rx) (name : Bytes) (ty ch : Nat) :
    let g := m.cache.get (ty, name)
    (∃ r, g.2 = some r ∧ m.lookup rx name ty ch = ({ m with cache := g.1 }, r)) ∨
    (g.2 = none ∧ m.lookup rx name ty ch =
      ({ m with cache := g.1.add (ty, name) (m.st.lookup rx name ty) ch }, m.st.lookup rx name ty)) := by
  unfold CachedMapper.lookup
  simp only
  cases hg : (m.cache.get (ty, name)).2 with
  | some r => exact .inl ⟨r, rfl, rfl⟩
  | none => exact .inr ⟨rfl, rfl⟩

theorem cached_lookup_spec (rx : Rx) (m : CachedMapper V) (name : Bytes) (ty ch : Nat) (h : CacheSound rx m) :
    (m.lookup rx name ty ch).2 = m.st.lookup rx name ty ∧
    (m.lookup rx name ty ch).1.st = m.st ∧
    CacheSound rx (m.lookup rx name ty ch).1 := by
  have hget : CacheSound rx { m with cache := (m.cache.get (ty, name)).1 } :=
    fun hk k r hm => h (Cache.get_kind .. ▸ hk) k r (Cache.get_items_sub _ _ _ hm)
  rcases m.lookup_cases rx name ty ch with ⟨r, hg, e⟩ | ⟨_, e⟩ <;> rw [e]
  · -- a hit: only a real cache hits, and what it holds is the mapper's answer
    exact ⟨h (Cache.get_some hg).1 (ty, name) r (Cache.get_some hg).2, rfl, hget⟩
  · -- a miss: `add` keeps the kind too, and its one new entry is the mapper's answer
    refine ⟨rfl, rfl, fun hk k r hm => ?_⟩
    rcases Cache.add_items_sub _ _ _ _ _ hm with e | hin
    · cases e; rfl
    · exact hget (Cache.add_kind .. ▸ hk) k r hin

theorem cached_lookup_kind (rx : Rx) (m : CachedMapper V) (name : Bytes) (ty ch : Nat) :
    (m.lookup rx name ty ch).1.cache.kind = m.cache.kind ∧
    (m.lookup rx name ty ch).1.cache.size = m.cache.size := by
  rcases m.lookup_cases rx name ty ch with ⟨r, _, e⟩ | ⟨_, e⟩ <;> rw [e]
  · exact ⟨Cache.get_kind _ _, Cache.get_size _ _⟩
  · exact ⟨by rw [Cache.add_kind, Cache.get_kind], by rw [Cache.add_size, Cache.get_size]⟩

theorem cached_lookup_wf (rx : Rx) (m : CachedMapper V) (name : Bytes) (ty ch : Nat) (h : m.cache.WF) :
    (m.lookup rx name ty ch).1.cache.WF := by
  rcases m.lookup_cases rx name ty ch with ⟨r, _, e⟩ | ⟨_, e⟩ <;> rw [e]
  · exact Cache.get_wf _ _ h
  · exact Cache.add_wf _ _ _ _ (Cache.get_wf _ _ h)

theorem cacheSound_reload (rx : Rx) (m : CachedMapper V) (l : Except LoadErr (Config V)) (h : CacheSound rx m) :
    CacheSound rx (m.reload l) := by
  cases l with
  | error e => exact h
  | ok n => exact cacheSound_of_empty rx _ rfl

theorem reload_st (m : CachedMapper V) (l : Except LoadErr (Config V)) :
    (m.reload l).st = m.st.step (.reload l) := by
  cases l <;> rfl

theorem runCached_eq_runPlain (rx : Rx) (ops : List (Op V)) :
    ∀ (m : CachedMapper V), CacheSound rx m → runCached rx m ops = runPlain rx m.st ops := by
  induction ops with
  | nil => intro m _; rfl
  | cons op ops ih =>
    intro m h
    cases op with
    | get name ty ch =>
      obtain ⟨h1, h2, h3⟩ := cached_lookup_spec rx m name ty ch h
      rw [runCached, runPlain, h1, ih _ h3, h2]
    | reload l => rw [runCached, runPlain, ih _ (cacheSound_reload rx m l h), reload_st]

theorem runPlain_choice_irrelevant (rx : Rx) (ops1 ops2 : List (Op V)) (st : MState V)
    (h : sameUpToChoices ops1 ops2) : runPlain rx st ops1 = runPlain rx st ops2 := by
  fun_induction sameUpToChoices ops1 ops2 generalizing st with
  | case1 => rfl
  | case2 n1 t1 _ a n2 t2 _ b ih =>
    obtain ⟨rfl, rfl, h⟩ := h
    exact congrArg (_ :: ·) (ih _ h)
  | case3 c1 a c2 b ih =>
    obtain ⟨rfl, h⟩ := h
    exact ih _ h
  | case4 _ a _ b ih => exact ih _ h
  | case5 => exact h.elim

end SE
