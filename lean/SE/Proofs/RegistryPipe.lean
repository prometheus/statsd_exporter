import SE.Proofs.RegistryWF
import SE.Spec.Pipe
import SE.Spec.FloatLaws
/-
`handleEvent` against its stages (SE/Spec/Pipe.lean): `handleEvent_eq` proves the model equal to the staged version,
`handleEvent_step` lists the ways a step can go (`EvStep`) in terms of the request `evTarget` and the registry's
answer to it. What C05–C08 say about `handleEvent` is derived from these.
-/
set_option linter.unusedSectionVars false
namespace SE
variable {V : Type} [NumOps V]

def UpdKeeps (f : VecM V → Series V → Series V) : Prop :=
  ∀ v s, (f v s).labels = s.labels ∧ (f v s).last = s.last ∧ (f v s).ttl = s.ttl

/-- `d.errors` goes in front: a step appends its error at the end, so an offset stays a prefix -/
def Counts.plus (c d : Counts) : Counts :=
  { conflicts := c.conflicts + d.conflicts, errors := d.errors ++ c.errors, dropped := c.dropped + d.dropped,
    mapped := c.mapped + d.mapped, unmapped := c.unmapped + d.unmapped, applied := c.applied + d.applied }

def Pipe.plus (p : Pipe V) (d : Counts) : Pipe V := { p with counts := p.counts.plus d }

def shiftRes (d : Counts) : Option (Except Panic (Pipe V)) → Option (Except Panic (Pipe V))
  | none => none
  | some (.error pn) => some (.error pn)
  | some (.ok q) => some (.ok (q.plus d))

theorem handleEvent_eq (p : Pipe V) (rx : Rx) (ev : Ev V) (tags : Labels) :
    handleEvent p rx ev tags =
      if evDropped p rx ev then
        some (.ok { p with counts := { p.counts with dropped := p.counts.dropped + 1 } })
      else
      match evNamed p rx ev tags with
      | none => none
      | some (.error e) => some (.ok { p with counts := { p.counts with errors := p.counts.errors ++ [e] } })
      | some (.ok (nm, labels, c)) =>
        if evBadCounter p rx ev then
          some (.ok { p with counts := { c with errors := c.errors ++ [.illegalNegativeCounter] } })
        else finishPlan p c (evPlan p rx ev nm labels.sorted) := by
  obtain ⟨kind, name, value, relative⟩ := ev
  cases kind
  · rfl
  · rfl
  · simp only [evPlan, apply_ite (finishPlan p _)]
    rfl

theorem evPlan_args (p : Pipe V) (rx : Rx) (ev : Ev V) (nm : Bytes) (sorted : Labels) :
    (evPlan p rx ev nm sorted).2.1.name = nm ∧ (evPlan p rx ev nm sorted).2.1.labels = sorted ∧
    (evPlan p rx ev nm sorted).2.1.ttl = evTtl p rx ev ∧ (evPlan p rx ev nm sorted).2.1.help = evHelp p rx ev := by
  unfold evPlan
  cases ev.kind
  · exact ⟨rfl, rfl, rfl, rfl⟩
  · exact ⟨rfl, rfl, rfl, rfl⟩
  · cases evObsTy p rx ev == ObsTy.histogram <;> exact ⟨rfl, rfl, rfl, rfl⟩

theorem UpdKeeps.labels {f : VecM V → Series V → Series V} (h : UpdKeeps f) (v : VecM V) (s : Series V) :
    (f v s).labels = s.labels :=
  (h v s).1

theorem evPlan_keeps (p : Pipe V) (rx : Rx) (ev : Ev V) (nm : Bytes) (sorted : Labels) :
    UpdKeeps (evPlan p rx ev nm sorted).2.2 := by
  unfold evPlan
  cases ev.kind
  · intro _ s
    simp only [counterAdd]
    split <;> exact ⟨rfl, rfl, rfl⟩
  · intro _ s
    cases ev.relative <;> exact ⟨rfl, rfl, rfl⟩
  · cases evObsTy p rx ev == ObsTy.histogram <;> exact fun _ _ => ⟨rfl, rfl, rfl⟩

theorem evPlan_counter (p : Pipe V) (rx : Rx) (ev : Ev V) (nm : Bytes) (sorted : Labels) :
    ((evPlan p rx ev nm sorted).1 = .counter ↔ ev.kind = .counter) ∧
    (ev.kind = .counter → (evPlan p rx ev nm sorted).2.2 = fun _ s => counterAdd s (evValue p rx ev)) := by
  unfold evPlan
  cases ev.kind
  · exact ⟨⟨fun _ => rfl, fun _ => rfl⟩, fun _ => rfl⟩
  · exact ⟨⟨nofun, nofun⟩, nofun⟩
  · cases evObsTy p rx ev == ObsTy.histogram <;> exact ⟨⟨nofun, nofun⟩, nofun⟩

section
variable {p p' : Pipe V} {rx : Rx} {ev : Ev V} {tags : Labels} {c : Counts} {pl : Plan V}

theorem evNamed_ok {nm : Bytes} {labels : Labels}
    (h : evNamed p rx ev tags = some (.ok (nm, labels, c))) :
    labels = evLabels p rx ev tags ∧ ∃ raw, raw ≠ [] ∧ nm = specEscape raw ∧
      ((∃ m r, evFound p rx ev = some m ∧ evRule p rx ev = some r ∧ m.name = some raw ∧
          c = { p.counts with mapped := p.counts.mapped + 1 }) ∨
       ((evFound p rx ev = none ∨ evRule p rx ev = none) ∧ raw = ev.name ∧
          c = { p.counts with unmapped := p.counts.unmapped + 1 })) := by
  unfold evNamed at h
  unfold evLabels
  split at h
  · rename_i m r hm hr
    split at h
    · cases h
    · rename_i raw hraw
      split at h
      · cases h
      · rename_i hne
        split at h
        · cases h
        · simp only [Option.some.injEq, Except.ok.injEq, Prod.mk.injEq] at h
          exact ⟨h.2.1.symm, raw, fun e => hne (by rw [e]; rfl), h.1.symm, Or.inl ⟨m, r, hm, hr, hraw, h.2.2.symm⟩⟩
  · rename_i hno
    have hnone : evFound p rx ev = none ∨ evRule p rx ev = none := by
      rcases hf : evFound p rx ev with _ | m
      · exact .inl rfl
      · rcases hr : evRule p rx ev with _ | r
        · exact .inr rfl
        · exact absurd hr (hno m r hf)
    by_cases he : ev.name.isEmpty = true
    · rw [if_pos he] at h; cases h
    · rw [if_neg he] at h
      simp only [Option.some.injEq, Except.ok.injEq, Prod.mk.injEq] at h
      exact ⟨h.2.1.symm, ev.name, fun e => he (by rw [e]; rfl), h.1.symm, Or.inr ⟨hnone, rfl, h.2.2.symm⟩⟩

theorem evNamed_counts {nm : Bytes} {labels : Labels}
    (h : evNamed p rx ev tags = some (.ok (nm, labels, c))) :
    c.applied = p.counts.applied ∧ c.conflicts = p.counts.conflicts ∧ c.errors = p.counts.errors ∧
    c.dropped = p.counts.dropped ∧ c.mapped + c.unmapped = p.counts.mapped + p.counts.unmapped + 1 := by
  obtain ⟨_, _, _, _, ⟨_, _, _, _, _, e⟩ | ⟨_, _, e⟩⟩ := evNamed_ok h <;> subst e
  · exact ⟨rfl, rfl, rfl, rfl, Nat.add_right_comm ..⟩
  · exact ⟨rfl, rfl, rfl, rfl, rfl⟩

theorem evTarget_spec (h : evTarget p rx ev tags = some (c, pl)) :
    evDropped p rx ev = false ∧ evBadCounter p rx ev = false ∧
    ∃ nm, evNamed p rx ev tags = some (.ok (nm, evLabels p rx ev tags, c)) ∧
      pl = evPlan p rx ev nm (evLabels p rx ev tags).sorted := by
  unfold evTarget at h
  split at h
  · cases h
  · rename_i hd
    split at h
    · rename_i nm labels c' hn
      split at h
      · cases h
      · rename_i hb
        simp only [Option.some.injEq, Prod.mk.injEq] at h
        obtain ⟨hc, hpl⟩ := h
        subst hc
        have hl := (evNamed_ok hn).1
        subst hl
        exact ⟨by simpa using hd, by simpa using hb, nm, hn, hpl.symm⟩
    · cases h

theorem handleEvent_of_target (h : evTarget p rx ev tags = some (c, pl)) :
    handleEvent p rx ev tags =
      match p.reg.getOrCreate pl.1 pl.2.1 p.now with
      | .error pn => some (.error pn)
      | .ok (.error _) => some (.ok (rejectedPipe p c))
      | .ok (.ok reg) => some (.ok (appliedPipe p c pl reg)) := by
  show _ = finishPlan p c pl
  obtain ⟨hd, hb, nm, hn, hpl⟩ := evTarget_spec h
  rw [handleEvent_eq, hd, hn]
  simp only [Bool.false_eq_true, if_false, hb, hpl]

theorem evTarget_counts (h : evTarget p rx ev tags = some (c, pl)) :
    c.applied = p.counts.applied ∧ c.conflicts = p.counts.conflicts ∧ c.errors = p.counts.errors ∧
    c.dropped = p.counts.dropped ∧ c.mapped + c.unmapped = p.counts.mapped + p.counts.unmapped + 1 :=
  have ⟨_, _, _, hn, _⟩ := evTarget_spec h
  evNamed_counts hn

inductive EvStep (p : Pipe V) (rx : Rx) (ev : Ev V) (tags : Labels) : Option (Except Panic (Pipe V)) → Prop
  | outside : EvStep p rx ev tags none
  | skipped {c' : Counts} : c'.applied = p.counts.applied → c'.conflicts = p.counts.conflicts →
      EvStep p rx ev tags (some (.ok { p with counts := c' }))
  | panic {c : Counts} {pl : Plan V} {pn : Panic} : evTarget p rx ev tags = some (c, pl) →
      p.reg.getOrCreate pl.1 pl.2.1 p.now = .error pn → EvStep p rx ev tags (some (.error pn))
  | rejected {c : Counts} {pl : Plan V} {e : RegErr} : evTarget p rx ev tags = some (c, pl) →
      p.reg.getOrCreate pl.1 pl.2.1 p.now = .ok (.error e) → EvStep p rx ev tags (some (.ok (rejectedPipe p c)))
  | applied {c : Counts} {pl : Plan V} {reg : Reg V} : evTarget p rx ev tags = some (c, pl) →
      p.reg.getOrCreate pl.1 pl.2.1 p.now = .ok (.ok reg) → EvStep p rx ev tags (some (.ok (appliedPipe p c pl reg)))

theorem handleEvent_step (p : Pipe V) (rx : Rx) (ev : Ev V) (tags : Labels) :
    EvStep p rx ev tags (handleEvent p rx ev tags) := by
  cases ht : evTarget p rx ev tags with
  | some x =>
    rw [handleEvent_of_target ht]
    cases hg : p.reg.getOrCreate x.2.1 x.2.2.1 p.now with
    | error pn => exact .panic ht hg
    | ok y =>
      cases y with
      | error e => exact .rejected ht hg
      | ok reg => exact .applied ht hg
  | none =>
    rw [handleEvent_eq]
    unfold evTarget at ht
    cases hd : evDropped p rx ev with
    | true => exact .skipped rfl rfl
    | false =>
      rw [hd] at ht
      cases hn : evNamed p rx ev tags with
      | none => exact .outside
      | some x =>
        rcases x with e | ⟨nm, labels, c⟩
        · exact .skipped rfl rfl
        · rw [hn] at ht
          cases hb : evBadCounter p rx ev with
          | true => exact .skipped (evNamed_counts hn).1 (evNamed_counts hn).2.1
          | false => rw [hb] at ht; cases ht

theorem handleEvent_ok_cases (h : handleEvent p rx ev tags = some (.ok p')) :
    (∃ c', p' = { p with counts := c' } ∧ c'.applied = p.counts.applied) ∨
    ∃ c pl reg, evTarget p rx ev tags = some (c, pl) ∧ p.reg.getOrCreate pl.1 pl.2.1 p.now = .ok (.ok reg) ∧
      p' = appliedPipe p c pl reg := by
  have hs := handleEvent_step p rx ev tags
  rw [h] at hs
  cases hs with
  | skipped ha _ => exact .inl ⟨_, rfl, ha⟩
  | rejected ht _ => exact .inl ⟨_, rfl, (evTarget_counts ht).1⟩
  | applied ht hg => exact .inr ⟨_, _, _, ht, hg, rfl⟩

theorem handleEvent_keeps (h : handleEvent p rx ev tags = some (.ok p')) : p'.mapper = p.mapper ∧ p'.now = p.now := by
  rcases handleEvent_ok_cases h with ⟨c', rfl, _⟩ | ⟨c, pl, reg, _, _, rfl⟩ <;> exact ⟨rfl, rfl⟩

theorem handleEvent_applied (h : handleEvent p rx ev tags = some (.ok p'))
    (ha : p'.counts.applied = p.counts.applied + 1) :
    ∃ c pl reg, evTarget p rx ev tags = some (c, pl) ∧ p.reg.getOrCreate pl.1 pl.2.1 p.now = .ok (.ok reg) ∧
      p' = appliedPipe p c pl reg := by
  rcases handleEvent_ok_cases h with ⟨c', rfl, hc⟩ | happ
  · exact absurd (hc.symm.trans ha) (Nat.ne_of_lt (Nat.lt_succ_self _))
  · exact happ

theorem evTarget_keeps (h : evTarget p rx ev tags = some (c, pl)) : UpdKeeps pl.2.2 := by
  obtain ⟨_, _, nm, _, hpl⟩ := evTarget_spec h
  subst hpl; exact evPlan_keeps _ _ _ _ _

theorem evTarget_args (h : evTarget p rx ev tags = some (c, pl)) :
    pl.2.1.labels = (evLabels p rx ev tags).sorted ∧ pl.2.1.ttl = evTtl p rx ev ∧ pl.2.1.help = evHelp p rx ev := by
  obtain ⟨_, _, nm, _, hpl⟩ := evTarget_spec h
  subst hpl
  exact (evPlan_args p rx ev nm _).2

theorem evTarget_counter (ht : evTarget p rx ev tags = some (c, pl)) :
    (pl.1 = .counter ↔ ev.kind = .counter) ∧
    (ev.kind = .counter → NonNeg (evValue p rx ev) ∧ pl.2.2 = fun _ s => counterAdd s (evValue p rx ev)) := by
  obtain ⟨_, hb, nm, _, rfl⟩ := evTarget_spec ht
  have h := evPlan_counter p rx ev nm (evLabels p rx ev tags).sorted
  refine ⟨h.1, fun hk => ⟨?_, h.2 hk⟩⟩
  unfold evBadCounter at hb
  rw [hk] at hb
  simp only [beq_self_eq_true, Bool.true_and, Bool.or_eq_false_iff] at hb
  exact ⟨hb.2, hb.1⟩

section applied
variable {reg : Reg V}

theorem applied_type_self (hg : p.reg.getOrCreate pl.1 pl.2.1 p.now = .ok (.ok reg)) :
    (appliedPipe p c pl reg).reg.type? pl.2.1.name = some pl.1 :=
  (type?_updateSeries ..).trans ((getOrCreate_type? hg _).trans (if_pos rfl))

theorem applied_vec (hg : p.reg.getOrCreate pl.1 pl.2.1 p.now = .ok (.ok reg))
    (h : p.reg.series? pl.2.1.name pl.2.1.labels = none ∨ RegWF p.reg) :
    (appliedPipe p c pl reg).reg.vec? pl.2.1.name (pl.2.1.labels.map (·.1)) = some (p.reg.vecFor pl.1 pl.2.1) :=
  (vec?_updateSeries ..).trans (getOrCreate_vec_self hg h)

variable (ht : evTarget p rx ev tags = some (c, pl)) (hg : p.reg.getOrCreate pl.1 pl.2.1 p.now = .ok (.ok reg))
include ht hg

theorem applied_grows : p.reg.Grows (appliedPipe p c pl reg).reg :=
  (getOrCreate_grows hg).trans (updateSeries_grows reg _ _ _ (evTarget_keeps ht).labels)

theorem applied_series? (name : Bytes) (L : Labels) :
    (appliedPipe p c pl reg).reg.series? name L =
      if name = pl.2.1.name ∧ L = pl.2.1.labels then
        some (applyUpd reg pl.2.1.name pl.2.1.labels pl.2.2 (p.reg.refreshed pl.1 pl.2.1 p.now))
      else p.reg.series? name L := by
  simp only [appliedPipe]
  rw [series?_updateSeries _ _ _ _ (evTarget_keeps ht).labels]
  split
  · rw [getOrCreate_series? hg, if_pos ⟨rfl, rfl⟩]; rfl
  · rename_i hne; rw [getOrCreate_series? hg, if_neg hne]

theorem applied_series_frame (name : Bytes) (L : Labels) (hne : ¬(name = pl.2.1.name ∧ L = pl.2.1.labels)) :
    (appliedPipe p c pl reg).reg.series? name L = p.reg.series? name L := by
  rw [applied_series? ht hg, if_neg hne]

theorem applied_series_self (h : p.reg.series? pl.2.1.name pl.2.1.labels = none ∨ RegWF p.reg) :
    (appliedPipe p c pl reg).reg.series? pl.2.1.name pl.2.1.labels =
      some (pl.2.2 (p.reg.vecFor pl.1 pl.2.1) (p.reg.refreshed pl.1 pl.2.1 p.now)) := by
  rw [applied_series? ht hg, if_pos ⟨rfl, rfl⟩, applyUpd, getOrCreate_vec_self hg h]

theorem applied_addressed :
    ∃ s, (appliedPipe p c pl reg).reg.series? pl.2.1.name pl.2.1.labels = some s ∧
      s.last = p.now ∧ s.ttl = pl.2.1.ttl ∧ s.labels = pl.2.1.labels := by
  refine ⟨_, by rw [applied_series? ht hg, if_pos ⟨rfl, rfl⟩], ?_⟩
  have hl := refreshed_labels p.reg pl.1 pl.2.1 p.now
  have hk := evTarget_keeps ht
  unfold applyUpd
  split
  · rename_i v _
    rw [(hk v _).2.1, (hk v _).2.2, (hk v _).1]
    exact ⟨rfl, rfl, hl⟩
  · exact ⟨rfl, rfl, hl⟩

end applied

theorem handleEvent_grows (h : handleEvent p rx ev tags = some (.ok p')) : p.reg.Grows p'.reg := by
  rcases handleEvent_ok_cases h with ⟨c', rfl, _⟩ | ⟨c, pl, reg, ht, hg, rfl⟩
  · exact Reg.Grows.refl _
  · exact applied_grows ht hg

end

/-! ### the exporter's own counters never influence a step

`handleEvent` reads the counters only to increment them: running it from a state whose counters
are offset by `d` gives the same result offset by `d`. -/

section
variable (p : Pipe V) (d : Counts) (rx : Rx) (ev : Ev V) (tags : Labels)

theorem evNamed_plus :
    evNamed (p.plus d) rx ev tags =
      match evNamed p rx ev tags with
      | none => none
      | some (.error e) => some (.error e)
      | some (.ok (nm, l, c)) => some (.ok (nm, l, c.plus d)) := by
  unfold evNamed
  rw [show evFound (p.plus d) rx ev = evFound p rx ev from rfl, show evRule (p.plus d) rx ev = evRule p rx ev from rfl]
  split
  · rename_i m r _ _
    cases m.name with
    | none => rfl
    | some nm =>
      dsimp only
      cases nm.isEmpty
      · cases m.labels.any (·.2.isNone)
        · simp only [Bool.false_eq_true, if_false, Pipe.plus, Counts.plus]
          rw [Nat.add_right_comm]
        · rfl
      · rfl
  · cases ev.name.isEmpty
    · simp only [Bool.false_eq_true, if_false, Pipe.plus, Counts.plus]
      rw [Nat.add_right_comm]
    · rfl

theorem evTarget_plus :
    evTarget (p.plus d) rx ev tags = (evTarget p rx ev tags).map fun x => (x.1.plus d, x.2) := by
  unfold evTarget
  rw [evNamed_plus, show evDropped (p.plus d) rx ev = evDropped p rx ev from rfl]
  cases evDropped p rx ev
  · rcases evNamed p rx ev tags with _ | ⟨e | ⟨nm, l, c⟩⟩
    · rfl
    · rfl
    · show (if evBadCounter p rx ev then none else some (c.plus d, evPlan p rx ev nm l.sorted)) = _
      cases evBadCounter p rx ev <;> rfl
  · rfl

theorem finishPlan_plus (c : Counts) (pl : Plan V) :
    finishPlan (p.plus d) (c.plus d) pl = shiftRes d (finishPlan p c pl) := by
  unfold finishPlan
  rw [show (p.plus d).reg.getOrCreate pl.1 pl.2.1 (p.plus d).now = p.reg.getOrCreate pl.1 pl.2.1 p.now from rfl]
  rcases p.reg.getOrCreate pl.1 pl.2.1 p.now with pn | e | reg
  · rfl
  · simp only [shiftRes, Pipe.plus, rejectedPipe, Counts.plus]
    rw [Nat.add_right_comm]
  · simp only [shiftRes, Pipe.plus, appliedPipe, Counts.plus]
    rw [Nat.add_right_comm]

theorem handleEvent_plus :
    handleEvent (p.plus d) rx ev tags = shiftRes d (handleEvent p rx ev tags) := by
  rw [handleEvent_eq, handleEvent_eq, evNamed_plus, show evDropped (p.plus d) rx ev = evDropped p rx ev from rfl]
  cases evDropped p rx ev
  · rcases evNamed p rx ev tags with _ | ⟨e | ⟨nm, l, c⟩⟩
    · rfl
    · simp only [Bool.false_eq_true, if_false, shiftRes, Pipe.plus, Counts.plus, List.append_assoc]
    · show (if evBadCounter p rx ev then _ else finishPlan (p.plus d) (c.plus d) (evPlan p rx ev nm l.sorted)) = _
      cases evBadCounter p rx ev
      · exact finishPlan_plus p d c _
      · simp only [Bool.false_eq_true, if_false, if_true, shiftRes, Pipe.plus, Counts.plus, List.append_assoc]
  · simp only [if_true, shiftRes, Pipe.plus, Counts.plus]
    rw [Nat.add_right_comm]

end

theorem handleEvents_plus (p : Pipe V) (d : Counts) (rx : Rx) (tags : Labels) (evs : List (Ev V)) :
    handleEvents (p.plus d) rx tags evs = shiftRes d (handleEvents p rx tags evs) := by
  induction evs generalizing p with
  | nil => rfl
  | cons e es ih =>
    simp only [handleEvents]
    rw [handleEvent_plus]
    rcases handleEvent p rx e tags with _ | pn | q
    · rfl
    · rfl
    · exact ih q

theorem Counts.zero_plus (c : Counts) : ({} : Counts).plus c = c := by
  simp only [Counts.plus, Nat.zero_add, List.append_nil]

theorem evTarget_congr (p q : Pipe V) (hm : p.mapper = q.mapper) (rx : Rx) (ev : Ev V) (tags : Labels) :
    (evTarget p rx ev tags).map (·.2) = (evTarget q rx ev tags).map (·.2) := by
  -- every state is the one with its mapper alone, the counters offset by its own; `evTarget` reads neither registry
  -- nor clock
  have key : ∀ p : Pipe V,
      (evTarget p rx ev tags).map (·.2) = (evTarget { mapper := p.mapper } rx ev tags).map (·.2) := by
    intro ⟨m, r, n, c⟩
    rw [← Counts.zero_plus c]
    exact (congrArg (Option.map (·.2)) (evTarget_plus { mapper := m, reg := r, now := n } c rx ev tags)).trans (by rw [Option.map_map])
  rw [key p, key q, hm]

end SE
