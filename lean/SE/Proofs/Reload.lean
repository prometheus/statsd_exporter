import SE.Proofs.Cache
/-
C14. A swapped mapper object answers like a freshly built one (`swap_lookup_eq_fresh`) and only the successful loads
swap it (`after_eq_foldl`), so after any history it answers like a fresh mapper for the last configuration loaded
successfully (`after_lookup`); mapper objects that answer alike keep doing so (`runPlain_congr`). An interleaving
only permutes the successful loads of its threads (`interleaving_okReloads`).
-/
namespace SE
variable {V : Type}

/-- the `fsm` and `doRegex` fields stay stale when the new configuration has `doFSM = false` (no glob rule), and
    then `MState.lookup` consults neither -/
theorem swap_lookup_eq_fresh (st : MState V) (n : Config V) (rx : Rx) (name : Bytes) (ty : Nat) :
    (st.swap n).lookup rx name ty = (MState.fresh n).lookup rx name ty := by
  unfold MState.lookup MState.swap MState.fresh
  cases n.doFSM <;> rfl

theorem okReloads_append (a b : List (Op V)) : okReloads (a ++ b) = okReloads a ++ okReloads b := by
  induction a with
  | nil => rfl
  | cons op a ih =>
    match op with
    | .reload (.ok n) => exact congrArg (n :: ·) ih
    | .get .. | .reload (.error _) => exact ih

theorem after_append (st : MState V) (a b : List (Op V)) : st.after (a ++ b) = (st.after a).after b :=
  List.foldl_append

theorem after_eq_foldl (ops : List (Op V)) :
    ∀ (st : MState V), st.after ops = (okReloads ops).foldl MState.swap st := by
  induction ops with
  | nil => intro _; rfl
  | cons op ops ih =>
    intro st
    match op with
    | .reload (.ok n) => exact ih _
    | .get .. | .reload (.error _) => exact ih st

theorem after_lookup (rx : Rx) (pre : List (Op V)) (st : MState V) (name : Bytes) (ty : Nat) :
    (st.after pre).lookup rx name ty = expectedAfter rx st pre name ty := by
  rw [after_eq_foldl, expectedAfter, lastOk]
  cases h : (okReloads pre).getLast? with
  | none => rw [List.getLast?_eq_none_iff.mp h]; rfl
  | some n =>
    -- the last swap decides
    obtain ⟨l, e⟩ := List.getLast?_eq_some_iff.mp h
    rw [e, List.foldl_append]
    exact swap_lookup_eq_fresh _ n rx name ty

theorem runPlain_append (rx : Rx) (a b : List (Op V)) :
    ∀ (st : MState V), runPlain rx st (a ++ b) = runPlain rx st a ++ runPlain rx (st.after a) b := by
  induction a with
  | nil => intro st; rfl
  | cons op a ih =>
    intro st
    cases op with
    | get name ty ch => exact congrArg (_ :: ·) (ih st)
    | reload l => exact ih _

theorem runPlain_congr (rx : Rx) (ops : List (Op V)) :
    ∀ (s1 s2 : MState V), (∀ name ty, s1.lookup rx name ty = s2.lookup rx name ty) →
      runPlain rx s1 ops = runPlain rx s2 ops := by
  induction ops with
  | nil => intro _ _ _; rfl
  | cons op ops ih =>
    intro s1 s2 h
    match op with
    | .get name ty ch => rw [runPlain, runPlain, h, ih s1 s2 h]
    | .reload (.error e) => exact ih s1 s2 h
    | .reload (.ok n) =>
      exact ih (s1.swap n) (s2.swap n) fun name ty => by rw [swap_lookup_eq_fresh, swap_lookup_eq_fresh]

theorem interleaving_okReloads (threads : List (List (Op V))) (trace : List (Op V))
    (h : Interleaving threads trace) :
    (okReloads trace).Perm ((threads.map okReloads).flatten) := by
  induction h with
  | done threads hnil =>
    rw [List.flatten_eq_nil_iff.mpr (List.forall_mem_map.mpr fun t ht => by rw [hnil t ht]; rfl)]
    exact .refl _
  | step pre op t post trace _ ih =>
    -- whatever `op` contributes moves from the front of the trace to the front of its thread
    have hcons : ∀ l : List (Op V), okReloads (op :: l) = okReloads [op] ++ okReloads l :=
      fun l => okReloads_append [op] l
    simp only [List.map_append, List.map_cons, List.flatten_append, List.flatten_cons] at ih ⊢
    rw [hcons trace, hcons t, List.append_assoc]
    exact (ih.append_left _).trans (List.perm_append_comm_assoc ..)

theorem runCached_reload_ok (rx : Rx) (m : CachedMapper V) (n : Config V) (ops : List (Op V)) :
    runCached rx (m.reload (.ok n)) ops = runPlain rx (MState.fresh n) ops := by
  rw [runCached_eq_runPlain rx ops _ (cacheSound_of_empty rx _ rfl)]
  exact runPlain_congr rx ops _ _ (swap_lookup_eq_fresh m.st n rx)

theorem reload_cases (rx : Rx) (m : CachedMapper V) (l : Except LoadErr (Config V)) :
    (∃ e, l = .error e ∧ m.reload l = m) ∨
    (∃ n, l = .ok n ∧ ∀ ops, runCached rx (m.reload l) ops = runPlain rx (MState.fresh n) ops) := by
  cases l with
  | error e => exact .inl ⟨e, rfl, rfl⟩
  | ok n => exact .inr ⟨n, rfl, runCached_reload_ok rx m n⟩

end SE
