import SE.Proofs.RegistryPipe
import SE.Spec.PipeHistory
import SE.Spec.Scrape
/-
One Hoare rule for histories of the exporter goroutine: a predicate on pipeline states that every single step
keeps (one event, the sweep, a clock change, a reload) holds after every line (`handleEvents`), every event sequence
(`runEvs`) and every history (`runOps`), and the panics a history can end in are those a single event can end in.
Invariants over histories are stated as instances of `StepInv rx R J B`: `J` the predicate, `R` what is assumed of every
mapper a reload installs (`ConfigSafe` for the no-panic invariant, nothing for most), `B` the panics a step from a
`J`-state may end in (none for the no-panic invariant, any for the others).
-/
set_option linter.unusedSectionVars false
namespace SE
variable {V : Type} [NumOps V]

def Outcome (J : Pipe V → Prop) (B : Panic → Prop) : Option (Except Panic (Pipe V)) → Prop
  | some (.ok p) => J p
  | some (.error pn) => B pn
  | none => True

theorem Outcome.ok {J : Pipe V → Prop} {B : Panic → Prop} {o : Option (Except Panic (Pipe V))} {p : Pipe V}
    (h : Outcome J B o) (e : o = some (.ok p)) : J p := by subst e; exact h

theorem Outcome.no_panic {J : Pipe V → Prop} {o : Option (Except Panic (Pipe V))}
    (h : Outcome J (fun _ => False) o) (pn : Panic) : o ≠ some (.error pn) := by
  intro e; subst e; exact h

structure StepInv (rx : Rx) (R : MState V → Prop) (J : Pipe V → Prop) (B : Panic → Prop) : Prop where
  event : ∀ (p : Pipe V) (ev : Ev V) (tags : Labels), J p → Outcome J B (handleEvent p rx ev tags)
  sweep : ∀ p : Pipe V, J p → J { p with reg := p.reg.sweep p.now }
  advance : ∀ (p : Pipe V) (now : Int), J p → J { p with now := now }
  reload : ∀ (p : Pipe V) (m : MState V), R m → J p → J { p with mapper := m }

theorem Outcome.andThen {J : Pipe V → Prop} {B : Panic → Prop} {o : Option (Except Panic (Pipe V))}
    {k : Pipe V → Option (Except Panic (Pipe V))} : Outcome J B o → (∀ p, J p → Outcome J B (k p)) →
    Outcome J B (match o with | some (.ok p) => k p | other => other) := by
  -- the hypotheses are arrows: as named binders `match` would generalise over them, and the term would not be the
  -- one `runEvs` and `runOps` unfold to
  intro h hk
  rcases o with _ | pn | p
  · trivial
  · exact h
  · exact hk p h

theorem handleEvents_eq_runEvs (rx : Rx) (tags : Labels) (evs : List (Ev V)) :
    ∀ p : Pipe V, handleEvents p rx tags evs = runEvs rx p (evs.map fun e => (e, tags)) := by
  induction evs with
  | nil => intro p; rfl
  | cons e es ih =>
    intro p
    simp only [handleEvents, List.map_cons, runEvs]
    rcases handleEvent p rx e tags with _ | pn | p1
    · rfl
    · rfl
    · exact ih p1

section
variable {rx : Rx} {R : MState V → Prop} {J : Pipe V → Prop} {B : Panic → Prop}

/-- takes the `event` hypothesis alone, so `J` may be a predicate the other steps do not keep: a relation to the start
    state, an unchanged clock -/
theorem runEvs_outcome (hev : ∀ (p : Pipe V) (ev : Ev V) (tags : Labels), J p → Outcome J B (handleEvent p rx ev tags))
    (evs : List (Ev V × Labels)) : ∀ p : Pipe V, J p → Outcome J B (runEvs rx p evs) := by
  induction evs with
  | nil => intro p h; exact h
  | cons e es ih =>
    intro p h
    rw [SE.runEvs]
    exact (hev p e.1 e.2 h).andThen ih

theorem StepInv.handleEvents (hJ : StepInv rx R J B) (tags : Labels) (evs : List (Ev V)) :
    ∀ p : Pipe V, J p → Outcome J B (handleEvents p rx tags evs) := by
  intro p
  rw [handleEvents_eq_runEvs]
  exact runEvs_outcome hJ.event _ p

theorem StepInv.runOps (hJ : StepInv rx R J B) (ops : List (PipeOp V)) :
    ∀ p : Pipe V, (∀ m, PipeOp.reload m ∈ ops → R m) → J p → Outcome J B (runOps rx p ops) := by
  induction ops with
  | nil => intro p _ h; exact h
  | cons op rest ih =>
    intro p hR h
    have hR' : ∀ m, PipeOp.reload m ∈ rest → R m := fun m hm => hR m (List.mem_cons_of_mem _ hm)
    cases op with
    | line tags evs => rw [SE.runOps]; exact (hJ.handleEvents tags evs p h).andThen fun p1 => ih p1 hR'
    | sweep => exact ih _ hR' (hJ.sweep p h)
    | advance now => exact ih _ hR' (hJ.advance p now h)
    | reload m => exact ih _ hR' (hJ.reload p m (hR m (List.mem_cons_self ..)) h)

end

/-! for a predicate that says nothing about panics it is enough to look at the steps that return a state -/
section
variable {rx : Rx} {J : Pipe V → Prop}
  (hev : ∀ {p p' : Pipe V} {ev : Ev V} {tags : Labels}, J p → handleEvent p rx ev tags = some (.ok p') → J p')
include hev

theorem outcome_of_ok (p : Pipe V) (ev : Ev V) (tags : Labels) (h : J p) :
    Outcome J (fun _ => True) (handleEvent p rx ev tags) := by
  rcases hr : handleEvent p rx ev tags with _ | pn | p'
  · trivial
  · trivial
  · exact hev h hr

theorem StepInv.ofOk {R : MState V → Prop}
    (hsweep : ∀ p : Pipe V, J p → J { p with reg := p.reg.sweep p.now })
    (hadv : ∀ (p : Pipe V) (now : Int), J p → J { p with now := now })
    (hreload : ∀ (p : Pipe V) (m : MState V), R m → J p → J { p with mapper := m }) :
    StepInv rx R J (fun _ => True) :=
  ⟨outcome_of_ok hev, hsweep, hadv, hreload⟩

theorem runEvs_inv {evs : List (Ev V × Labels)} {p p' : Pipe V} (h0 : J p) (h : runEvs rx p evs = some (.ok p')) : J p' :=
  (runEvs_outcome (outcome_of_ok hev) evs p h0).ok h

end

/-- the request in `hget` is that of an event, so `hget` may use what `evTarget` says about it -/
theorem StepInv.ofReg {rx : Rx} {I : Reg V → Prop}
    (hget : ∀ {p : Pipe V} {ev : Ev V} {tags : Labels} {c : Counts} {pl : Plan V} {reg : Reg V}, I p.reg →
      evTarget p rx ev tags = some (c, pl) → p.reg.getOrCreate pl.1 pl.2.1 p.now = .ok (.ok reg) → I reg)
    (hupd : ∀ {r : Reg V} {name : Bytes} {labels : Labels} {f : VecM V → Series V → Series V},
      (∀ v s, (f v s).labels = s.labels) → I r → I (updateSeries r name labels f))
    (hsweep : ∀ (r : Reg V) (now : Int), I r → I (r.sweep now)) :
    StepInv rx (fun _ => True) (fun p => I p.reg) (fun _ => True) :=
  StepInv.ofOk
    (fun h hr => by
      rcases handleEvent_ok_cases hr with ⟨c', rfl, _⟩ | ⟨c, pl, reg, ht, hg, rfl⟩
      · exact h
      · exact hupd (evTarget_keeps ht).labels (hget h ht hg))
    (fun _ h => hsweep _ _ h) (fun _ _ h => h) (fun _ _ _ h => h)

theorem StepInv.ofRegWF {rx : Rx} {I : Reg V → Prop}
    (hget : ∀ {p : Pipe V} {ev : Ev V} {tags : Labels} {c : Counts} {pl : Plan V} {reg : Reg V}, RegWF p.reg → I p.reg →
      evTarget p rx ev tags = some (c, pl) → p.reg.getOrCreate pl.1 pl.2.1 p.now = .ok (.ok reg) → I reg)
    (hupd : ∀ {r : Reg V} {name : Bytes} {labels : Labels} {f : VecM V → Series V → Series V},
      (∀ v s, (f v s).labels = s.labels) → I r → I (updateSeries r name labels f))
    (hsweep : ∀ (r : Reg V) (now : Int), I r → I (r.sweep now)) :
    StepInv rx (fun _ => True) (fun p => RegWF p.reg ∧ I p.reg) (fun _ => True) :=
  StepInv.ofReg (I := fun r => RegWF r ∧ I r) (fun h ht hg => ⟨RegWF_getOrCreate h.1 hg, hget h.1 h.2 ht hg⟩)
    (fun hk h => ⟨RegWF_updateSeries h.1 hk, hupd hk h.2⟩)
    (fun r now h => ⟨RegWF_sweep h.1 now, hsweep r now h.2⟩)

theorem RegWF_steps (rx : Rx) : StepInv rx (fun _ => True) (fun p : Pipe V => RegWF p.reg) (fun _ => True) :=
  StepInv.ofReg (I := RegWF) (fun hw _ hg => RegWF_getOrCreate hw hg) (fun hk hw => RegWF_updateSeries hw hk)
    (fun _ now hw => RegWF_sweep hw now)

theorem RegWF_handleEvent {p p' : Pipe V} {rx : Rx} {ev : Ev V} {tags : Labels} (hw : RegWF p.reg)
    (h : handleEvent p rx ev tags = some (.ok p')) : RegWF p'.reg :=
  ((RegWF_steps rx).event p ev tags hw).ok h

end SE
