import SE.Proofs.SafetyGather
/-
The invariant `SuffixFree` (SE/Spec/Registry.lean): no registered metric is named like a companion series (`_sum`,
`_count`, `_bucket`) of a registered observer. On a well-formed registry every `getOrCreate` that returns a registry
keeps it: this is what the repaired `checkObserverNameCollision` / `checkHistogramNameCollision` pair buys (the checks
go through the name map, so two entries of one name would escape them). It implies that `checkSuffixCollisions` finds
nothing among the statsd families.
-/
set_option linter.unusedSectionVars false
namespace SE
variable {V : Type} [NumOps V]

/-- the suffixes of `companionNames` in the order the model's `Reg.companion` tests them (the specification lists them
    in another) -/
def companionSfx : MType → List Bytes
  | .histogram => [sfxSum, sfxCount, sfxBucket]
  | .summary => [sfxSum, sfxCount]
  | _ => []

theorem companionSfx_spec (t : MType) (s : Bytes) (hs : s ∈ companionSfx t) :
    s ∈ [sfxBucket, sfxCount, sfxSum] ∧ s ≠ [] ∧ t ≠ .counter := by
  -- the only evaluation of the suffix literals; the memberships are read off the lists as they are written
  have hne : ∀ x, x ∈ [sfxBucket, sfxCount, sfxSum] → x ≠ [] := by decide +kernel
  have hmem : s ∈ [sfxBucket, sfxCount, sfxSum] := by
    -- `histNameCollision_iff` lists the suffixes in the reverse order
    cases t with
    | counter | gauge => cases hs
    | histogram => exact List.mem_reverse.mpr hs
    | summary => exact List.mem_cons_of_mem _ (List.mem_reverse.mpr hs)
  exact ⟨hmem, hne s hmem, fun e => by subst e; cases hs⟩

theorem mem_of_type?_some {r : Reg V} {n : Bytes} {t : MType} (h : r.type? n = some t) :
    ∃ m, m ∈ r.metrics ∧ m.name = n ∧ m.ty = t := by
  obtain ⟨m, hf, e⟩ := Option.map_eq_some_iff.mp h
  exact ⟨m, (mem_of_find hf).1, (mem_of_find hf).2, e⟩

theorem type?_none_iff (r : Reg V) (n : Bytes) : r.type? n = none ↔ ∀ m, m ∈ r.metrics → m.name ≠ n := by
  unfold Reg.type? Reg.find
  simp only [Option.map_eq_none_iff, List.find?_eq_none, beq_iff_eq]

theorem mem_companionNames {y x : Bytes} {t : MType} : y ∈ companionNames x t ↔ ∃ s, s ∈ companionSfx t ∧ y = x ++ s := by
  have e : (∃ s, s ∈ companionSfx t ∧ y = x ++ s) ↔ y ∈ (companionSfx t).map (x ++ ·) := by
    rw [List.mem_map]; exact exists_congr fun s => and_congr_right fun _ => eq_comm
  rw [e]
  -- `companionNames` lists `_count` before `_sum`, `companionSfx` after
  cases t with
  | counter | gauge => exact Iff.rfl
  | histogram | summary => exact (List.Perm.swap ..).mem_iff

theorem suffixFree_iff (r : Reg V) :
    SuffixFree r ↔ ∀ m, m ∈ r.metrics → ∀ m', m' ∈ r.metrics → m'.name ∉ companionNames m.name m.ty := by
  unfold SuffixFree
  refine forall_congr' fun m => forall_congr' fun _ => forall_congr' fun m' => forall_congr' fun _ => ?_
  rw [mem_companionNames]
  cases m.ty <;> simp only [companionSfx, List.mem_cons, List.not_mem_nil, not_exists, not_and, forall_eq_or_imp,
    reduceCtorEq, false_imp_iff, true_imp_iff, and_true, true_and, implies_true]

/-- `SuffixFree` read through the name map, the way the two collision checks of `getOrCreate` see the registry -/
def SuffixFreeL (r : Reg V) : Prop :=
  ∀ n t, r.type? n = some t → ∀ s, s ∈ companionSfx t → r.type? (n ++ s) = none

theorem suffixFree_iff_lookup {r : Reg V} (hw : RegWF r) : SuffixFree r ↔ SuffixFreeL r := by
  rw [suffixFree_iff]
  constructor
  · intro h n t ht s hs
    obtain ⟨m, hm, hn, hty⟩ := mem_of_type?_some ht
    subst hn; subst hty
    rw [type?_none_iff]
    intro m' hm' e
    exact h m hm m' hm' (mem_companionNames.mpr ⟨s, hs, e⟩)
  · intro h m hm m' hm' hc
    obtain ⟨s, hs, e⟩ := mem_companionNames.mp hc
    exact (type?_none_iff r _).mp (h m.name m.ty (hw.type?_of_mem hm) s hs) m' hm' e

theorem SuffixFree_empty (pre : List (Bytes × MType × Bytes)) : SuffixFree ({ metrics := [], pre := pre } : Reg V) :=
  fun _ h => by cases h

theorem SuffixFree.entriesOf {r r' : Reg V} (h : SuffixFree r) (hw : r'.EntriesOf r) : SuffixFree r' := by
  intro m1 hm1 m2 hm2
  obtain ⟨n1, hn1, e1, t1, _⟩ := hw m1 hm1
  obtain ⟨n2, hn2, e2, _⟩ := hw m2 hm2
  rw [e1, t1, e2]
  exact h n1 hn1 n2 hn2

/-- The new name `a.name`, of type `ty`, has none of its own companion names registered: `checkObserverNameCollision`
    just verified that. And it is not a companion name of a registered observer `n`: `checkHistogramNameCollision`
    would have found `n` registered with a type other than counter. -/
theorem SuffixFreeL_create {r r' : Reg V} {ty : MType} {a : GetArgs V} {now : Int} (h : SuffixFreeL r)
    (hg : r.getOrCreate ty a now = .ok (.ok r')) (hcomp : r.companion ty a.name = false) : SuffixFreeL r' := by
  have hno := mt (companion_eq_true_iff r ty a.name).mpr (Bool.eq_false_iff.mp hcomp)
  intro n t ht s hs
  obtain ⟨hsm, hsne, htc⟩ := companionSfx_spec t s hs
  rw [getOrCreate_type? hg] at ht ⊢
  by_cases e1 : n = a.name
  · subst e1
    rw [if_pos rfl] at ht
    cases ht
    rw [if_neg fun e => hsne (List.append_right_eq_self.mp e)]
    exact Option.eq_none_iff_forall_ne_some.mpr fun t' ht' =>
      hno (.inr ⟨_, mem_companionNames.mpr ⟨s, hs, rfl⟩, t', ht'⟩)
  · rw [if_neg e1] at ht
    by_cases e2 : n ++ s = a.name
    · exact absurd (.inl ((histNameCollision_iff r a.name).mpr ⟨s, hsm, n, e2.symm, t, ht, htc⟩)) hno
    · rw [if_neg e2]; exact h n t ht s hs

theorem SuffixFree_getOrCreate {r r' : Reg V} {ty : MType} {a : GetArgs V} {now : Int} (hw : RegWF r)
    (h : SuffixFree r) (hg : r.getOrCreate ty a now = .ok (.ok r')) : SuffixFree r' := by
  rcases getOrCreate_ok_cases hg with ⟨_, e⟩ | ⟨_, _, hcomp, _⟩
  · subst e; exact h.entriesOf (entriesOf_touch r a now)
  · exact (suffixFree_iff_lookup (RegWF_getOrCreate hw hg)).mpr
      (SuffixFreeL_create ((suffixFree_iff_lookup hw).mp h) hg hcomp)

theorem SuffixFree_steps (rx : Rx) :
    StepInv rx (fun _ => True) (fun p : Pipe V => RegWF p.reg ∧ SuffixFree p.reg) (fun _ => True) :=
  StepInv.ofRegWF (fun hw hs _ hg => SuffixFree_getOrCreate hw hs hg)
    (fun _ hs => hs.entriesOf (entriesOf_updateSeries _ _ _ _)) (fun r now hs => hs.entriesOf (entriesOf_sweep r now))

theorem SuffixFree_runOps (rx : Rx) (ops : List (PipeOp V)) {p p' : Pipe V} (hw : RegWF p.reg) (hs : SuffixFree p.reg)
    (h : runOps rx p ops = some (.ok p')) : SuffixFree p'.reg :=
  (((SuffixFree_steps rx).runOps ops p (fun _ _ => trivial) ⟨hw, hs⟩).ok h).2

theorem families_names_types (r : Reg V) :
    r.families.map (fun f => (f.name, f.ty)) = (r.metrics.filter (!·.series.isEmpty)).map fun m => (m.name, m.ty) := by
  rw [Reg.families, List.map_filterMap, ← List.filterMap_eq_map' (f := fun m : MetricM V => (m.name, m.ty)),
    List.filterMap_filter]
  congr; funext m
  cases m.series.isEmpty <;> rfl

theorem suffixCollision_live_of_suffixFree {r : Reg V} (h : SuffixFree r) :
    suffixCollision ((r.metrics.filter (!·.series.isEmpty)).map fun m => (m.name, m.ty)) = false := by
  rw [← Bool.not_eq_true, suffixCollision_iff]
  rintro ⟨x, hx, y, hy, hxy⟩
  obtain ⟨m, hm, rfl⟩ := List.mem_map.mp hx
  obtain ⟨m', hm', rfl⟩ := List.mem_map.mp hy
  exact (suffixFree_iff r).mp h m (List.mem_filter.mp hm).1 m' (List.mem_filter.mp hm').1 hxy

theorem gatherOk_of_suffixFree {r : Reg V} (h : SuffixFree r) (hpre : r.pre = []) :
    r.gatherOk = (r.metrics.filter (!·.series.isEmpty)).all helpConsistent := by
  have h3 := suffixCollision_live_of_suffixFree h
  unfold Reg.gatherOk
  simp only [hpre, List.map_nil, List.append_nil, h3, List.all_nil, Bool.not_false, Bool.and_true]
  cases (r.metrics.filter (!·.series.isEmpty)).all helpConsistent <;> simp

end SE
