import SE.Proofs.RegistryPipe
/-
The frame of one `handleEvent` step lifted to all events of a line (`handleEvents_frame`): which series a line may
touch; everything else — types, vectors, all other series, the mapper, the clock — stays as it was.
-/
set_option linter.unusedSectionVars false
namespace SE
variable {V : Type} [NumOps V]

/-- the series (metric name, sorted label set) an event addresses in the registry, if it reaches it.
    A function of the mapper, the regex oracle, the event and the line's tags only (`evAddr_congr`). -/
def evAddr (p : Pipe V) (rx : Rx) (ev : Ev V) (tags : Labels) : Option (Bytes × Labels) :=
  (evTarget p rx ev tags).map fun cp => (cp.2.2.1.name, cp.2.2.1.labels)

theorem evAddr_congr (p q : Pipe V) (hm : p.mapper = q.mapper) (rx : Rx) (ev : Ev V) (tags : Labels) :
    evAddr p rx ev tags = evAddr q rx ev tags := by
  have h := congrArg (Option.map fun (pl : Plan V) => (pl.2.1.name, pl.2.1.labels)) (evTarget_congr p q hm rx ev tags)
  simp only [Option.map_map] at h
  exact h

/-- one of the events of the line addresses the series `(name, L)` -/
def LineAddresses (p : Pipe V) (rx : Rx) (tags : Labels) (evs : List (Ev V)) (name : Bytes) (L : Labels) : Prop :=
  ∃ e, e ∈ evs ∧ evAddr p rx e tags = some (name, L)

theorem handleEvent_series_frame {p p' : Pipe V} {rx : Rx} {ev : Ev V} {tags : Labels}
    (h : handleEvent p rx ev tags = some (.ok p')) (name : Bytes) (L : Labels)
    (hne : evAddr p rx ev tags ≠ some (name, L)) : p'.reg.series? name L = p.reg.series? name L := by
  rcases handleEvent_ok_cases h with ⟨c', rfl, _⟩ | ⟨c, pl, reg, ht, hg, rfl⟩
  · rfl
  · refine applied_series_frame ht hg name L fun ⟨e1, e2⟩ => hne ?_
    rw [evAddr, ht, e1, e2]; rfl

theorem handleEvents_frame {rx : Rx} {tags : Labels} (evs : List (Ev V)) :
    ∀ {p p' : Pipe V}, handleEvents p rx tags evs = some (.ok p') →
      p'.mapper = p.mapper ∧ p'.now = p.now ∧
      (∀ name t, p.reg.type? name = some t → p'.reg.type? name = some t) ∧
      (∀ name names v, p.reg.vec? name names = some v → p'.reg.vec? name names = some v) ∧
      (∀ name L, ¬ LineAddresses p rx tags evs name L → p'.reg.series? name L = p.reg.series? name L) := by
  induction evs with
  | nil =>
    intro p p' h
    cases h
    exact ⟨rfl, rfl, fun _ _ h => h, fun _ _ _ h => h, fun _ _ _ => rfl⟩
  | cons e es ih =>
    intro p p' h
    simp only [handleEvents] at h
    split at h
    · cases h
    · cases h
    · rename_i p1 h1
      obtain ⟨k1, k2⟩ := handleEvent_keeps h1
      obtain ⟨i1, i2, i3, i4, i5⟩ := ih h
      refine ⟨i1.trans k1, i2.trans k2,
        fun name t ht => i3 name t ((handleEvent_grows h1).type ht),
        fun name names v hv => i4 name names v ((handleEvent_grows h1).vec hv),
        fun name L hna => ?_⟩
      rw [i5 name L, handleEvent_series_frame h1 name L]
      · exact fun hadd => hna ⟨e, List.mem_cons_self .., hadd⟩
      · rintro ⟨e', he', hadd⟩
        exact hna ⟨e', List.mem_cons_of_mem _ he', evAddr_congr p1 p k1 .. ▸ hadd⟩

end SE
