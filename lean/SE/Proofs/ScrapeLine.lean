import SE.Proofs.LineTags
/-
C01, the line side: the events of a single-sample line `name:v|T` or `name:v|T|@r` (`plainSample`, `ratedSample`, for a
name that no tag syntax applies to: `PlainName`), as `emit` of the value and the repetition count that the rate leaves.
`amplLine` is the instance C02 uses as its witness of amplification.
-/
set_option linter.unusedSectionVars false
namespace SE
open NumOps
variable {V : Type} [NumOps V]

def ratedSample (v T r : Bytes) : Bytes := v ++ cPipe :: (T ++ cPipe :: cAt :: r)

def plainSample (v T : Bytes) : Bytes := v ++ cPipe :: T

theorem splitOn_rated {v T r : Bytes} (hv : cPipe ∉ v) (hT : cPipe ∉ T) (hr : cPipe ∉ r) :
    splitOn cPipe (ratedSample v T r) = [v, T, cAt :: r] := by
  unfold ratedSample
  rw [splitOn_append _ hv, splitOn_append _ hT,
    splitOn_of_not_mem (List.not_mem_cons_of_ne_of_not_mem (by decide) hr)]

theorem splitOn_plain {v T : Bytes} (hv : cPipe ∉ v) (hT : cPipe ∉ T) :
    splitOn cPipe (plainSample v T) = [v, T] := by
  unfold plainSample
  rw [splitOn_append _ hv, splitOn_of_not_mem hT]

/-- a metric name that no enabled tagging style can cut -/
structure PlainName (fl : ParserFlags) (name : Bytes) : Prop where
  ne : name ≠ []
  colon : cColon ∉ name
  hash : fl.librato = true → cHash ∉ name
  comma : fl.influxdb = true → cComma ∉ name
  lbr : fl.signalfx = true → cLBr ∉ name
  rbr : fl.signalfx = true → cRBr ∉ name

theorem line_events_of_accepted (fl : ParserFlags) (pf : Pf V) {name s v T : Bytes} {extra : List Bytes}
    (hn : PlainName fl name) (hcut : lineSamples false s = .ok [s]) (hsp : splitOn cPipe s = v :: T :: extra)
    (hacc : sampleAccepted pf s = true) :
    (lineToEvents fl pf true (name ++ cColon :: s)).events = (acceptedEffect fl pf name v T extra).events := by
  rw [lineToEvents_of_samples fl pf hn.ne hn.colon (parseNameAndTags_plain fl hn.hash hn.comma hn.lbr hn.rbr) hcut,
    ← effect_of_accepted fl pf name hsp hacc]
  exact (congrArg ParseOut.events (parseSample_eq ..)).trans (List.nil_append _)

theorem line_rated_events (fl : ParserFlags) (pf : Pf V) {name v T r : Bytes} (hn : PlainName fl name)
    (hv : cPipe ∉ v) (hvc : cColon ∉ v) (hT : cPipe ∉ T) (hTc : cColon ∉ T) (hr : cPipe ∉ r) (hrc : cColon ∉ r)
    {x : V} (hx : pf v = (x, .ok)) :
    (lineToEvents fl pf true (name ++ cColon :: ratedSample v T r)).events =
      (emit (statTypeOf T) name (rateValue (statTypeOf T) x (some (effRate (pf r).1))) (signedValue v)
        (rateCopies (statTypeOf T) 1 (some (effRate (pf r).1))).toNat).1 := by
  have hsp := splitOn_rated hv hT hr
  have hcut : lineSamples false (ratedSample v T r) = .ok [ratedSample v T r] :=
    lineSamples_one _ hvc (Bool.and_false _) fun _ =>
      not_mem_append_cons hTc (by decide) (List.not_mem_cons_of_ne_of_not_mem (by decide) hrc)
  rw [line_events_of_accepted fl pf hn hcut hsp (by simp [sampleAccepted, hsp, hx])]
  simp [acceptedEffect, hx]

theorem line_plain_events (fl : ParserFlags) (pf : Pf V) {name v T : Bytes} (hn : PlainName fl name)
    (hv : cPipe ∉ v) (hvc : cColon ∉ v) (hT : cPipe ∉ T) (hTc : cColon ∉ T)
    {x : V} (hx : pf v = (x, .ok)) :
    (lineToEvents fl pf true (name ++ cColon :: plainSample v T)).events =
      (emit (statTypeOf T) name x (signedValue v) 1).1 := by
  have hsp := splitOn_plain hv hT
  have hcut : lineSamples false (plainSample v T) = .ok [plainSample v T] :=
    lineSamples_one T hvc (Bool.and_false _) fun _ => hTc
  rw [line_events_of_accepted fl pf hn hcut hsp (by simp [sampleAccepted, hsp, hx])]
  simp [acceptedEffect, hx]

def amplLine : Bytes := strBytes "a:1|ms|@r"

end SE
