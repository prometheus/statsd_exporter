import SE.Model.Sync
import SE.Proofs.ListLemmas
/-
What the lock discipline of SE/Model/Sync.lean means (C20): an interleaving semantics of goroutines that acquire and
release reader-writer locks (Go's sync.Mutex = a lock only ever taken exclusively, sync.RWMutex = Lock / RLock) and
perform accesses annotated with `Acc` rows of the discipline table. Mutual exclusion of the lock table (`LockInv`) is an
invariant; with it, under a table without violations, threads that hold what their rows claim (`AccessHeld`, which
programs built from lock regions, `Seg`, satisfy) never stand at conflicting accesses together (`discipline_no_race`).
`Example` holds the concrete systems of C20's non-vacuity theorem.
-/
namespace SE.Sync
open SE

/-- what a goroutine does next -/
inductive Act where
  | acq (l : String) (excl : Bool)     -- `l.Lock()` (excl = true) / `l.RLock()` (excl = false)
  | rel (l : String)                   -- `l.Unlock()` / `l.RUnlock()`
  | access (a : Acc)                   -- a read or write of shared location `a.loc`
  deriving DecidableEq, Repr

/-- a goroutine: identity (`role`, instance number), the actions it still has to perform, and the
    locks it currently holds (name, held exclusively?) -/
structure Thread where
  role : Role
  inst : Nat
  prog : List Act
  held : List (String × Bool)
  deriving DecidableEq, Repr

abbrev State := List Thread

def Thread.id (t : Thread) : Role × Nat := (t.role, t.inst)
def Thread.next (t : Thread) : Option Act := t.prog.head?
def Thread.holds (t : Thread) (l : String) : Bool := t.held.any (·.1 == l)
def Thread.holdsExcl (t : Thread) (l : String) : Bool := t.held.contains (l, true)

/-- `acq l true` needs that NO thread holds `l` in any mode (not even the acquiring one: Go mutexes are
    not reentrant); `acq l false` needs that no thread holds `l` exclusively; everything else is
    always enabled -/
def enabled (st : State) : Act → Bool
  | .acq l true => st.all fun t => !t.holds l
  | .acq l false => st.all fun t => !t.holdsExcl l
  | .rel _ => true
  | .access _ => true

/-- the thread after performing `a`, with `rest` left to do -/
def Thread.exec (t : Thread) (a : Act) (rest : List Act) : Thread :=
  match a with
  | .acq l x => { t with prog := rest, held := (l, x) :: t.held }
  | .rel l => { t with prog := rest, held := t.held.eraseP (·.1 == l) }
  | .access _ => { t with prog := rest }

/-- thread `i` performs its next action, if it has one and it is enabled -/
def stepAt (st : State) (i : Nat) : Option State :=
  match st[i]? with
  | none => none
  | some t =>
    match t.prog with
    | [] => none
    | a :: rest => if enabled st a then some (st.set i (t.exec a rest)) else none

/-- goroutine identities are pairwise distinct, and a non-`multi` role has the single instance 0 -/
def WF (st : State) : Prop :=
  (∀ (i j : Nat) (ti tj : Thread), st[i]? = some ti → st[j]? = some tj → i ≠ j → ti.id ≠ tj.id) ∧
  (∀ t ∈ st, t.role.multi = false → t.inst = 0)

/-- initial states: well-formed identities, nobody holds a lock -/
def Initial (st : State) : Prop := WF st ∧ ∀ t ∈ st, t.held = []

/-- reachability from `s0` by any interleaving -/
inductive Reach (s0 : State) : State → Prop
  | refl : Reach s0 s0
  | step {st st' : State} {i : Nat} : Reach s0 st → stepAt st i = some st' → Reach s0 st'

def Reachable (st : State) : Prop := ∃ s0, Initial s0 ∧ Reach s0 st

theorem holds_iff {t : Thread} {l : String} : t.holds l = true ↔ ∃ x, (l, x) ∈ t.held := by
  simp [Thread.holds]

theorem holdsExcl_iff {t : Thread} {l : String} : t.holdsExcl l = true ↔ (l, true) ∈ t.held := by
  simp [Thread.holdsExcl]

theorem stepAt_inv {st st' : State} {i : Nat} (h : stepAt st i = some st') :
    ∃ t a rest, st[i]? = some t ∧ t.prog = a :: rest ∧ enabled st a = true ∧
      st' = st.set i (t.exec a rest) := by
  unfold stepAt at h
  split at h
  · cases h
  · split at h
    · cases h
    · split at h
      · cases h; exact ⟨_, _, _, ‹_›, ‹_›, ‹_›, rfl⟩
      · cases h

theorem exec_role (t : Thread) (a : Act) (rest : List Act) : (t.exec a rest).role = t.role := by
  cases a <;> rfl
theorem exec_inst (t : Thread) (a : Act) (rest : List Act) : (t.exec a rest).inst = t.inst := by
  cases a <;> rfl
theorem exec_prog (t : Thread) (a : Act) (rest : List Act) : (t.exec a rest).prog = rest := by
  cases a <;> rfl

theorem forall_step {P : Thread → Prop}
    (hexec : ∀ {t : Thread} {a : Act} {rest : List Act}, t.prog = a :: rest → P t → P (t.exec a rest))
    {st st' : State} {i : Nat} (h : ∀ u ∈ st, P u) (hs : stepAt st i = some st') : ∀ u ∈ st', P u := by
  obtain ⟨t, a, rest, ht, hp, _, rfl⟩ := stepAt_inv hs
  intro u hu
  rcases List.mem_or_eq_of_mem_set hu with hu | rfl
  · exact h u hu
  · exact hexec hp (h t (List.mem_of_getElem? ht))

/-- `LockInv` and the distinctness of identities in `WF` are both of this form, a relation between the threads at any
    two distinct positions; `hl` and `hr` are the stepping thread on either side of it. -/
theorem pairs_set {R : Thread → Thread → Prop} {st : State} {k : Nat} {t t' : Thread}
    (h : ∀ (i j : Nat) (ti tj : Thread), st[i]? = some ti → st[j]? = some tj → i ≠ j → R ti tj)
    (hk : st[k]? = some t) (hl : ∀ u ∈ st, R t u → R t' u) (hr : ∀ u ∈ st, R u t → R u t')
    (i j : Nat) (ti tj : Thread) (hi : (st.set k t')[i]? = some ti) (hj : (st.set k t')[j]? = some tj)
    (hij : i ≠ j) : R ti tj := by
  rcases ListLemmas.getElem?_set_cases hi with ⟨rfl, rfl⟩ | ⟨_, hi'⟩ <;>
    rcases ListLemmas.getElem?_set_cases hj with ⟨rfl, rfl⟩ | ⟨_, hj'⟩
  · exact absurd rfl hij
  · exact hl tj (List.mem_of_getElem? hj') (h i j t tj hk hj' hij)
  · exact hr ti (List.mem_of_getElem? hi') (h i j ti t hi' hk hij)
  · exact h i j ti tj hi' hj' hij

theorem Reach.inv {P : State → Prop} (hstep : ∀ {st st' : State} {i : Nat}, P st → stepAt st i = some st' → P st')
    {s0 st : State} (h0 : P s0) (h : Reach s0 st) : P st := by
  induction h with
  | refl => exact h0
  | step _ hs ih => exact hstep ih hs

/-- if thread `i` holds `l` exclusively then no other thread holds `l` in any mode -/
def LockInv (st : State) : Prop :=
  ∀ (i j : Nat) (ti tj : Thread) (l : String), st[i]? = some ti → st[j]? = some tj → i ≠ j →
    (l, true) ∈ ti.held → ∀ x, (l, x) ∉ tj.held

theorem lockInv_initial {st : State} (h : Initial st) : LockInv st := by
  intro i j ti tj l hi _ _ hex
  rw [h.2 ti (List.mem_of_getElem? hi)] at hex
  cases hex

theorem enabled_acq {st : State} {l : String} {x : Bool} (h : enabled st (.acq l x) = true) :
    ∀ u ∈ st, (l, true) ∉ u.held ∧ (x = true → ∀ y, (l, y) ∉ u.held) := by
  intro u hu
  cases x with
  | true =>
    have hn : ∀ y, (l, y) ∉ u.held := by
      simpa [← Bool.not_eq_true, holds_iff] using List.all_eq_true.mp h u hu
    exact ⟨hn true, fun _ => hn⟩
  | false => exact ⟨by simpa [← holdsExcl_iff] using List.all_eq_true.mp h u hu, nofun⟩

theorem lockInv_step {st st' : State} {i : Nat} (hinv : LockInv st) (h : stepAt st i = some st') :
    LockInv st' := by
  obtain ⟨t, a, rest, ht, _, hen, rfl⟩ := stepAt_inv h
  intro p q tp tq l
  -- a lock the thread holds after the step it held before, or it is the lock just acquired
  have hheld : ∀ y, (l, y) ∈ (t.exec a rest).held → (l, y) ∈ t.held ∨ a = .acq l y := by
    intro y hm
    cases a with
    | acq l' x => exact (List.mem_cons.mp hm).elim (fun e => by cases e; exact .inr rfl) .inl
    | rel l' => exact .inl (List.mem_of_mem_eraseP hm)
    | access a => exact .inl hm
  refine pairs_set (fun i j ti tj => hinv i j ti tj l) ht ?_ ?_ p q tp tq
  -- the stepping thread as the exclusive holder …
  · intro u hu hR hex x hx
    rcases hheld true hex with h | rfl
    · exact hR h x hx
    · exact (enabled_acq hen u hu).2 rfl x hx
  -- … and as the other holder
  · intro u hu hR hex x hx
    rcases hheld x hx with h | rfl
    · exact hR hex x h
    · exact (enabled_acq hen u hu).1 hex

theorem lockInv_reachable {st : State} (h : Reachable st) : LockInv st := by
  obtain ⟨s0, hi, hr⟩ := h
  exact Reach.inv lockInv_step (lockInv_initial hi) hr

theorem wf_step {st st' : State} {i : Nat} (hwf : WF st) (h : stepAt st i = some st') : WF st' := by
  obtain ⟨t, a, rest, ht, _, _, rfl⟩ := stepAt_inv h
  have hid : (t.exec a rest).id = t.id := by rw [Thread.id, exec_role, exec_inst]; rfl
  exact ⟨pairs_set hwf.1 ht (fun u _ hR => by rwa [hid]) (fun u _ hR => by rwa [hid]),
    forall_step (fun _ ht => by rwa [exec_role, exec_inst]) hwf.2 h⟩

theorem wf_reachable {st : State} (h : Reachable st) : WF st := by
  obtain ⟨s0, hi, hr⟩ := h
  exact Reach.inv wf_step hi.1 hr

theorem wf_concurrent {st : State} (hwf : WF st) {i j : Nat} {ti tj : Thread}
    (hi : st[i]? = some ti) (hj : st[j]? = some tj) (hij : i ≠ j) :
    concurrent ti.role tj.role = true := by
  cases hm : ti.role.multi with
  | true => simp [concurrent, hm]
  | false =>
    -- both would be instance 0 of the same role: equal identities
    have hr : ti.role ≠ tj.role := fun hr => hwf.1 i j ti tj hi hj hij (by
      rw [Thread.id, Thread.id, hr, hwf.2 ti (List.mem_of_getElem? hi) hm,
        hwf.2 tj (List.mem_of_getElem? hj) (hr ▸ hm)])
    simp [concurrent, hr]

/-- the state predicate the race-freedom theorem needs: a thread that is about to perform access `a`
    holds (at least) the locks row `a` claims, in the claimed modes, and runs in the claimed role -/
def AccessHeld (st : State) : Prop :=
  ∀ t ∈ st, ∀ a, t.next = some (.access a) → a.locks ⊆ t.held ∧ a.role = t.role

/-- the threads only perform accesses that are rows of the table -/
def ProgIn (rows : List Acc) (st : State) : Prop :=
  ∀ t ∈ st, ∀ a, Act.access a ∈ t.prog → a ∈ rows

/-- `Annot r h p`: running program `p` in role `r`, starting with the locks `h` held, every access is
    performed in role `r` with the locks of its row held (symbolic execution of `held`) -/
def Annot (r : Role) : List (String × Bool) → List Act → Prop
  | _, [] => True
  | h, .acq l x :: p => Annot r ((l, x) :: h) p
  | h, .rel l :: p => Annot r (h.eraseP (·.1 == l)) p
  | h, .access a :: p => (a.role = r ∧ a.locks ⊆ h) ∧ Annot r h p

def WellAnnotated (st : State) : Prop := ∀ t ∈ st, Annot t.role t.held t.prog

theorem annot_exec {t : Thread} {a : Act} {rest : List Act} (hp : t.prog = a :: rest)
    (h : Annot t.role t.held t.prog) : Annot (t.exec a rest).role (t.exec a rest).held (t.exec a rest).prog := by
  rw [hp] at h
  rw [exec_role, exec_prog]
  cases a with
  | acq l x => exact h
  | rel l => exact h
  | access a => exact h.2

theorem accessHeld_of_wellAnnotated {st : State} (hw : WellAnnotated st) : AccessHeld st := by
  intro t ht a hn
  obtain ⟨rest, hp⟩ := List.head?_eq_some_iff.mp hn
  have h := hw t ht
  rw [hp] at h
  exact h.1.symm

theorem progIn_step {rows : List Acc} {st st' : State} {i : Nat} (hp : ProgIn rows st)
    (h : stepAt st i = some st') : ProgIn rows st' := by
  refine forall_step (fun hprog ht b hb => ?_) hp h
  rw [exec_prog] at hb
  exact ht b (by rw [hprog]; exact List.mem_cons_of_mem _ hb)

/-- a program segment as the Go code writes them: accesses under one lock
    (`mu.Lock(); defer mu.Unlock(); …` or `mu.RLock(); …; mu.RUnlock()`), or accesses under no lock -/
inductive Seg where
  | locked (l : String) (excl : Bool) (accs : List Acc)
  | bare (accs : List Acc)
  deriving Repr

def region (l : String) (excl : Bool) (accs : List Acc) : List Act :=
  .acq l excl :: (accs.map .access ++ [.rel l])

def Seg.acts : Seg → List Act
  | .locked l x accs => region l x accs
  | .bare accs => accs.map .access

def Seg.accs : Seg → List Acc
  | .locked _ _ accs => accs
  | .bare accs => accs

/-- the rows of the segment claim the role of the thread, and no lock but the one of the region -/
def Seg.ok (r : Role) : Seg → Prop
  | .locked l x accs => ∀ a ∈ accs, a.role = r ∧ a.locks ⊆ [(l, x)]
  | .bare accs => ∀ a ∈ accs, a.role = r ∧ a.locks = []

instance (r : Role) : (s : Seg) → Decidable (s.ok r)
  | .locked _ _ accs => List.decidableBAll _ accs
  | .bare accs => List.decidableBAll _ accs

def segsProg (segs : List Seg) : List Act := segs.flatMap Seg.acts

theorem annot_accesses {r : Role} {h : List (String × Bool)} {accs : List Acc} {p : List Act}
    (ha : ∀ a ∈ accs, a.role = r ∧ a.locks ⊆ h) (hp : Annot r h p) :
    Annot r h (accs.map .access ++ p) := by
  induction accs with
  | nil => exact hp
  | cons a accs ih =>
    obtain ⟨h1, h2⟩ := List.forall_mem_cons.mp ha
    simp only [List.map_cons, List.cons_append, Annot]
    exact ⟨h1, ih h2⟩

theorem annot_seg {r : Role} {h : List (String × Bool)} {s : Seg} {p : List Act}
    (hs : s.ok r) (hp : Annot r h p) : Annot r h (s.acts ++ p) := by
  cases s with
  | locked l x accs =>
    simp only [Seg.acts, region, List.cons_append, List.append_assoc, Annot]
    refine annot_accesses (fun a ha =>
      (hs a ha).imp_right (·.trans (List.cons_subset_cons _ (List.nil_subset h)))) ?_
    -- the release takes the region's lock off the front again
    simp only [List.nil_append, Annot]
    rw [List.eraseP_cons_of_pos (by simp)]
    exact hp
  | bare accs => exact annot_accesses (fun a ha => ⟨(hs a ha).1, (hs a ha).2 ▸ List.nil_subset h⟩) hp

theorem annot_segs {r : Role} {h : List (String × Bool)} {segs : List Seg}
    (hs : ∀ s ∈ segs, s.ok r) : Annot r h (segsProg segs) := by
  induction segs with
  | nil => trivial
  | cons s segs ih =>
    obtain ⟨h1, h2⟩ := List.forall_mem_cons.mp hs
    rw [segsProg, List.flatMap_cons]
    exact annot_seg h1 (ih h2)

theorem access_mem_acts {s : Seg} {a : Acc} : Act.access a ∈ s.acts ↔ a ∈ s.accs := by
  cases s <;> simp [Seg.acts, Seg.accs, region]

/-- a system of goroutines whose programs are sequences of segments -/
def SegSystem (rows : List Acc) (st : State) : Prop :=
  ∀ t ∈ st, ∃ segs : List Seg, t.prog = segsProg segs ∧ (∀ s ∈ segs, s.ok t.role) ∧
    ∀ s ∈ segs, ∀ a ∈ s.accs, a ∈ rows

theorem segSystem_wellAnnotated {rows : List Acc} {st : State} (h : SegSystem rows st) :
    WellAnnotated st := by
  intro t ht
  obtain ⟨segs, hp, hok, _⟩ := h t ht
  rw [hp]; exact annot_segs hok

theorem segSystem_progIn {rows : List Acc} {st : State} (h : SegSystem rows st) :
    ProgIn rows st := by
  intro t ht a ha
  obtain ⟨segs, hp, _, hin⟩ := h t ht
  rw [hp] at ha
  obtain ⟨s, hs, has⟩ := List.mem_flatMap.mp ha
  exact hin s hs a (access_mem_acts.mp has)

/-- two distinct threads are simultaneously about to access the same location, one of them writing
    (threads identified by their position in the state) -/
def RaceStateIx (st : State) : Prop :=
  ∃ (i j : Nat) (t1 t2 : Thread) (a1 a2 : Acc), i ≠ j ∧ st[i]? = some t1 ∧ st[j]? = some t2 ∧
    t1.next = some (.access a1) ∧ t2.next = some (.access a2) ∧
    a1.loc = a2.loc ∧ (a1.write = true ∨ a2.write = true)

/-- the same, in the vocabulary of thread records -/
def RaceState (st : State) : Prop :=
  ∃ (t1 t2 : Thread) (a1 a2 : Acc), t1 ∈ st ∧ t2 ∈ st ∧ t1 ≠ t2 ∧
    t1.next = some (.access a1) ∧ t2.next = some (.access a2) ∧
    a1.loc = a2.loc ∧ (a1.write = true ∨ a2.write = true)

theorem raceStateIx_of_raceState {st : State} (h : RaceState st) : RaceStateIx st := by
  obtain ⟨t1, t2, a1, a2, h1, h2, hne, r⟩ := h
  obtain ⟨i, hi⟩ := List.mem_iff_getElem?.mp h1
  obtain ⟨j, hj⟩ := List.mem_iff_getElem?.mp h2
  refine ⟨i, j, t1, t2, a1, a2, fun hij => hne ?_, hi, hj, r⟩
  subst hij
  exact Option.some.inj (hi.symm.trans hj)

theorem raceState_of_raceStateIx {st : State} (hwf : WF st) (h : RaceStateIx st) : RaceState st := by
  obtain ⟨i, j, t1, t2, a1, a2, hij, hi, hj, r⟩ := h
  exact ⟨t1, t2, a1, a2, List.mem_of_getElem? hi, List.mem_of_getElem? hj,
    fun heq => hwf.1 i j t1 t2 hi hj hij (by rw [heq]), r⟩

theorem protected_of_no_violations {rows : List Acc} (hv : violations rows = [])
    {a b : Acc} (ha : a ∈ rows) (hb : b ∈ rows) (hc : conflicting a b = true) :
    protectedPair a b = true := by
  have h := List.filter_eq_nil_iff.mp (List.map_eq_nil_iff.mp (List.flatMap_eq_nil_iff.mp hv a ha)) b hb
  simpa [hc] using h

theorem protectedPair_spec {a b : Acc} (h : protectedPair a b = true) :
    ∃ l xa xb, (l, xa) ∈ a.locks ∧ (l, xb) ∈ b.locks ∧
      (a.write = true → xa = true) ∧ (b.write = true → xb = true) := by
  simp only [protectedPair, List.any_eq_true, Bool.and_eq_true, beq_iff_eq, Bool.or_eq_true,
    Bool.not_eq_true'] at h
  obtain ⟨⟨l, xa⟩, hla, ⟨_, xb⟩, hlb, ⟨rfl, hwa⟩, hwb⟩ := h
  exact ⟨l, xa, xb, hla, hlb, fun hw => by simpa [hw] using hwa, fun hw => by simpa [hw] using hwb⟩

theorem no_race_of_invariants {rows : List Acc} (hv : violations rows = []) {st : State}
    (hwf : WF st) (hinv : LockInv st) (hrows : ProgIn rows st) (hheld : AccessHeld st) :
    ¬ RaceStateIx st := by
  rintro ⟨i, j, t1, t2, a1, a2, hij, hi, hj, hn1, hn2, hloc, hw⟩
  have hm1 := List.mem_of_getElem? hi
  have hm2 := List.mem_of_getElem? hj
  have hrow1 := hrows t1 hm1 a1 (List.mem_of_mem_head? hn1)
  have hrow2 := hrows t2 hm2 a2 (List.mem_of_mem_head? hn2)
  obtain ⟨hl1, hr1⟩ := hheld t1 hm1 a1 hn1
  obtain ⟨hl2, hr2⟩ := hheld t2 hm2 a2 hn2
  have hconf : conflicting a1 a2 = true := by
    simp [conflicting, hloc, hw, hr1, hr2, wf_concurrent hwf hi hj hij]
  obtain ⟨l, xa, xb, hla, hlb, hwa, hwb⟩ :=
    protectedPair_spec (protected_of_no_violations hv hrow1 hrow2 hconf)
  -- the writer holds the common lock exclusively, the other thread holds it too
  rcases hw with hw | hw
  · cases hwa hw
    exact hinv i j t1 t2 l hi hj hij (hl1 hla) xb (hl2 hlb)
  · cases hwb hw
    exact hinv j i t2 t1 l hj hi (Ne.symm hij) (hl2 hlb) xa (hl1 hla)

theorem discipline_no_raceIx {rows : List Acc} (hv : violations rows = []) {st : State}
    (hreach : Reachable st) (hrows : ProgIn rows st) (hheld : AccessHeld st) : ¬ RaceStateIx st :=
  no_race_of_invariants hv (wf_reachable hreach) (lockInv_reachable hreach) hrows hheld

theorem discipline_no_race {rows : List Acc} (hv : violations rows = []) {st : State}
    (hreach : Reachable st) (hrows : ProgIn rows st) (hheld : AccessHeld st) : ¬ RaceState st :=
  fun hrace => discipline_no_raceIx hv hreach hrows hheld (raceStateIx_of_raceState hrace)

theorem wellAnnotated_no_race {rows : List Acc} (hv : violations rows = []) {s0 st : State}
    (hinit : Initial s0) (hrows : ProgIn rows s0) (hann : WellAnnotated s0) (hreach : Reach s0 st) :
    ¬ RaceState st :=
  discipline_no_race hv ⟨s0, hinit, hreach⟩ (Reach.inv progIn_step hrows hreach)
    (accessHeld_of_wellAnnotated (Reach.inv (forall_step annot_exec) hann hreach))

theorem segSystem_no_race {rows : List Acc} (hv : violations rows = []) {s0 st : State}
    (hinit : Initial s0) (hsys : SegSystem rows s0) (hreach : Reach s0 st) : ¬ RaceState st :=
  wellAnnotated_no_race hv hinit (segSystem_progIn hsys) (segSystem_wellAnnotated hsys) hreach

theorem violations_nil_of_racyLocations_nil {tbl : List SE.Gen.Access} (h : racyLocations tbl = []) :
    violations (accRows tbl) = [] := by
  unfold racyLocations at h
  cases hv : violations (accRows tbl) with
  | nil => rfl
  | cons p ps => rw [hv, List.map_cons, List.eraseDups_cons] at h; cases h

/-- a checkable sufficient condition for `Initial` -/
theorem initial_of_nodup {st : State} (h : (st.map Thread.id).Nodup ∧
    (∀ t ∈ st, t.role.multi = false → t.inst = 0) ∧ ∀ t ∈ st, t.held = []) : Initial st := by
  refine ⟨⟨fun i j ti tj hi hj hij heq => hij ?_, h.2.1⟩, h.2.2⟩
  have hlt : i < (st.map Thread.id).length := by
    rw [List.length_map]; exact (List.getElem?_eq_some_iff.mp hi).1
  refine (List.getElem?_inj hlt h.1).mp ?_
  rw [List.getElem?_map, List.getElem?_map, hi, hj, Option.map_some, Option.map_some, heq]

/-- … and one for `SegSystem`: the segments given as a function of the thread -/
theorem segSystem_of_segs {rows : List Acc} {st : State} (segs : Thread → List Seg)
    (h : ∀ t ∈ st, t.prog = segsProg (segs t) ∧ (∀ s ∈ segs t, s.ok t.role) ∧
      ∀ s ∈ segs t, ∀ a ∈ s.accs, a ∈ rows) : SegSystem rows st :=
  fun t ht => ⟨segs t, h t ht⟩

namespace Example

def reloader : Role := ⟨"reloader", false⟩
def lookup : Role := ⟨"lookup", true⟩
/-- the reloader replaces `X` under `mu.Lock()` -/
def accW : Acc := ⟨"Reload", reloader, "X", true, [("mu", true)]⟩
/-- lookups read `X` under `mu.RLock()` -/
def accR : Acc := ⟨"Get", lookup, "X", false, [("mu", false)]⟩

/-- one writer region, two reader regions (two instances of the `multi` role) -/
def sys0 : State :=
  [⟨reloader, 0, region "mu" true [accW], []⟩,
   ⟨lookup, 0, region "mu" false [accR], []⟩,
   ⟨lookup, 1, region "mu" false [accR], []⟩]

/-- the writer has taken the lock and is at its access -/
def sysW : State :=
  [⟨reloader, 0, [.access accW, .rel "mu"], [("mu", true)]⟩,
   ⟨lookup, 0, region "mu" false [accR], []⟩,
   ⟨lookup, 1, region "mu" false [accR], []⟩]

/-- both readers have taken the lock (shared) and are at their accesses -/
def sysRR : State :=
  [⟨reloader, 0, region "mu" true [accW], []⟩,
   ⟨lookup, 0, [.access accR, .rel "mu"], [("mu", false)]⟩,
   ⟨lookup, 1, [.access accR, .rel "mu"], [("mu", false)]⟩]

theorem sys0_initial : Initial sys0 := initial_of_nodup (by decide +kernel)

theorem sys0_rows_disciplined : violations [accW, accR] = [] := by decide +kernel

/-- … and the two rows do conflict, so the discipline has something to order -/
theorem sys0_rows_conflict : conflicting accW accR = true := by decide +kernel

theorem sys0_segSystem : SegSystem [accW, accR] sys0 :=
  segSystem_of_segs (fun t => [if t.role = reloader then .locked "mu" true [accW] else .locked "mu" false [accR]])
    (by decide +kernel)

/-- the writer is at its access, and both readers are blocked at their `acq` -/
theorem writer_in_readers_blocked :
    Reachable sysW ∧ (sysW[0]?.bind Thread.next) = some (.access accW) ∧
    (sysW[1]?.bind Thread.next) = some (.acq "mu" false) ∧
    stepAt sysW 1 = none ∧ stepAt sysW 2 = none ∧ (stepAt sysW 0).isSome = true :=
  ⟨⟨sys0, sys0_initial, .step .refl (i := 0) rfl⟩, rfl, rfl, rfl, rfl, rfl⟩

/-- both readers are at their (read) accesses at once — `RLock` is shared — and the writer is blocked -/
theorem readers_in_writer_blocked :
    Reachable sysRR ∧ (sysRR[1]?.bind Thread.next) = some (.access accR) ∧
    (sysRR[2]?.bind Thread.next) = some (.access accR) ∧ stepAt sysRR 0 = none :=
  ⟨⟨sys0, sys0_initial, .step (i := 2) (.step .refl (i := 1) rfl) rfl⟩, rfl, rfl, rfl⟩

theorem sys0_race_free {st : State} (h : Reach sys0 st) : ¬ RaceState st :=
  segSystem_no_race sys0_rows_disciplined sys0_initial sys0_segSystem h

/-! an undisciplined variant: the lookup reads `X` with no lock (the `Defaults` defect) -/

def accR' : Acc := ⟨"Get", lookup, "X", false, []⟩

def bad0 : State :=
  [⟨reloader, 0, region "mu" true [accW], []⟩, ⟨lookup, 0, [.access accR'], []⟩]

def bad1 : State :=
  [⟨reloader, 0, [.access accW, .rel "mu"], [("mu", true)]⟩, ⟨lookup, 0, [.access accR'], []⟩]

/-- the pair is conflicting and unprotected: the discipline rejects the table … -/
theorem bad_rows_violate : violations [accW, accR'] ≠ [] := by decide +kernel

/-- … the programs are nevertheless well annotated (they hold what their rows claim) … -/
theorem bad0_segSystem : SegSystem [accW, accR'] bad0 :=
  segSystem_of_segs (fun t => [if t.role = reloader then .locked "mu" true [accW] else .bare [accR']])
    (by decide +kernel)

/-- … and the semantics does exhibit the race: a `RaceState` is reachable -/
theorem bad_race_reachable : ∃ st, Reachable st ∧ AccessHeld st ∧ RaceState st := by
  have hstep : Reach bad0 bad1 := .step .refl (i := 0) rfl
  have hreach : Reachable bad1 := ⟨bad0, initial_of_nodup (by decide +kernel), hstep⟩
  exact ⟨bad1, hreach,
    accessHeld_of_wellAnnotated (Reach.inv (forall_step annot_exec) (segSystem_wellAnnotated bad0_segSystem) hstep),
    raceState_of_raceStateIx (wf_reachable hreach)
      ⟨0, 1, _, _, accW, accR', Nat.zero_ne_one, rfl, rfl, rfl, rfl, rfl, .inl rfl⟩⟩

/-! the LRU defect: `Get` under `RLock` while the underlying `Get` reorders the list (a write) -/

def accG : Acc := ⟨"Get", lookup, "lru", true, [("mu", false)]⟩

def lru0 : State :=
  [⟨lookup, 0, region "mu" false [accG], []⟩, ⟨lookup, 1, region "mu" false [accG], []⟩]

def lru2 : State :=
  [⟨lookup, 0, [.access accG, .rel "mu"], [("mu", false)]⟩,
   ⟨lookup, 1, [.access accG, .rel "mu"], [("mu", false)]⟩]

theorem lru_rows_violate : violations [accG] ≠ [] := by decide +kernel

/-- two lookups both hold the read lock and are both about to write -/
theorem lru_race_reachable : Reachable lru2 ∧ RaceState lru2 := by
  have hreach : Reachable lru2 :=
    ⟨lru0, initial_of_nodup (by decide +kernel), .step (i := 1) (.step .refl (i := 0) rfl) rfl⟩
  exact ⟨hreach, raceState_of_raceStateIx (wf_reachable hreach)
    ⟨0, 1, _, _, accG, accG, Nat.zero_ne_one, rfl, rfl, rfl, rfl, rfl, .inl rfl⟩⟩

end Example

end SE.Sync
