import SE.Proofs.Registry
import SE.Proofs.ListLemmas
/-
The registry invariant `RegWF` (SE/Spec/Registry.lean): it holds for the empty registry and is
preserved by `getOrCreate`, `updateSeries` and `sweep`. Under it the membership reading
(`Reg.HasSeries`) and the lookup reading (`Reg.series?`) of a registry coincide.
-/
set_option linter.unusedSectionVars false
namespace SE
variable {V : Type} [NumOps V]

theorem mem_of_find {r : Reg V} {name : Bytes} {m : MetricM V} (h : r.find name = some m) :
    m ∈ r.metrics ∧ m.name = name :=
  ⟨List.mem_of_find?_eq_some h, by simpa using List.find?_some h⟩

theorem RegWF.find_of_mem {r : Reg V} (h : RegWF r) {m : MetricM V} (hm : m ∈ r.metrics) : r.find m.name = some m :=
  ListLemmas.find?_key_of_mem (fun m : MetricM V => m.name) r.metrics h.names_nodup m hm

theorem RegWF.type?_of_mem {r : Reg V} (h : RegWF r) {m : MetricM V} (hm : m ∈ r.metrics) : r.type? m.name = some m.ty :=
  congrArg (Option.map MetricM.ty) (h.find_of_mem hm)

theorem hasSeries_of_series? {r : Reg V} {name : Bytes} {L : Labels} {s : Series V}
    (hs : r.series? name L = some s) : r.HasSeries name s := by
  obtain ⟨m, hf, hm⟩ := Option.bind_eq_some_iff.mp hs
  exact ⟨m, (mem_of_find hf).1, (mem_of_find hf).2, List.mem_of_find?_eq_some hm⟩

theorem RegWF.hasSeries_iff {r : Reg V} (h : RegWF r) (name : Bytes) (s : Series V) :
    r.HasSeries name s ↔ r.series? name s.labels = some s := by
  constructor
  · rintro ⟨m, hm, hn, hs⟩
    subst hn
    unfold Reg.series?
    rw [h.find_of_mem hm]
    exact ListLemmas.find?_key_of_mem (fun s : Series V => s.labels) m.series (h.labels_nodup m hm) s hs
  · exact hasSeries_of_series?

theorem RegWF.forall_series_iff {r : Reg V} (h : RegWF r) (Q : MType → Series V → Prop) :
    (∀ m, m ∈ r.metrics → ∀ s, s ∈ m.series → Q m.ty s) ↔
      ∀ name L t s, r.type? name = some t → r.series? name L = some s → Q t s := by
  constructor
  · intro hq name L t s ht hs
    obtain ⟨m, hm, hn, hsm⟩ := hasSeries_of_series? hs
    subst hn
    cases (h.type?_of_mem hm).symm.trans ht
    exact hq m hm s hsm
  · intro hq m hm s hs
    exact hq m.name s.labels m.ty s (h.type?_of_mem hm) ((h.hasSeries_iff m.name s).mp ⟨m, hm, rfl, hs⟩)

theorem RegWF.vec?_of_series? {r : Reg V} (h : RegWF r) {name : Bytes} {L : Labels} {s : Series V}
    (hs : r.series? name L = some s) : ∃ v, r.vec? name (L.map (·.1)) = some v := by
  obtain ⟨m, hm, hn, hsm⟩ := hasSeries_of_series? hs
  obtain ⟨v, hv, hvn⟩ := h.has_vec m hm s hsm
  subst hn
  unfold Reg.vec?
  rw [h.find_of_mem hm, Option.bind_some, ← Option.isSome_iff_exists, List.find?_isSome]
  exact ⟨v, hv, by rw [hvn, series?_labels hs]; simp⟩

/-- the part of `RegWF` that speaks about one entry -/
def EntryWF (m : MetricM V) : Prop :=
  (m.series.map (·.labels)).Nodup ∧ ∀ s, s ∈ m.series → ∃ v, v ∈ m.vecs ∧ v.names = s.labels.map (·.1)

theorem regWF_iff (r : Reg V) : RegWF r ↔ (r.metrics.map (·.name)).Nodup ∧ ∀ m, m ∈ r.metrics → EntryWF m :=
  ⟨fun h => ⟨h.names_nodup, fun m hm => ⟨h.labels_nodup m hm, h.has_vec m hm⟩⟩,
   fun h => ⟨h.1, fun m hm => (h.2 m hm).1, fun m hm => (h.2 m hm).2⟩⟩

theorem RegWF_empty (pre : List (Bytes × MType × Bytes)) : RegWF ({ metrics := [], pre := pre } : Reg V) :=
  ⟨List.nodup_nil, fun _ h => (by cases h), fun _ h => (by cases h)⟩

theorem RegWF_updateMetric {r : Reg V} (h : RegWF r) (name : Bytes) (f : MetricM V → MetricM V)
    (hn : ∀ m, (f m).name = m.name) (hf : ∀ m, r.find name = some m → EntryWF m → EntryWF (f m)) :
    RegWF (updateMetric r name f) := by
  have he := ((regWF_iff r).mp h).2
  have hnames : (updateMetric r name f).metrics.map (·.name) = r.metrics.map (·.name) :=
    map_key_map MetricM.name _ (fun m => key_ite MetricM.name f hn _ m) r.metrics
  refine (regWF_iff _).mpr ⟨hnames ▸ h.names_nodup, fun m' hm' => ?_⟩
  obtain ⟨m, hm, ⟨hnm, rfl⟩ | ⟨_, rfl⟩⟩ := mem_updateMetric hm'
  · exact hf m (hnm ▸ h.find_of_mem hm) (he m hm)
  · exact he _ hm

theorem EntryWF_of_labels {m m' : MetricM V} (h : EntryWF m) (hv : m'.vecs = m.vecs)
    (hl : m'.series.map (·.labels) = m.series.map (·.labels)) : EntryWF m' := by
  refine ⟨by rw [hl]; exact h.1, fun s' hs' => ?_⟩
  have : s'.labels ∈ m.series.map (·.labels) := by rw [← hl]; exact List.mem_map_of_mem hs'
  obtain ⟨s, hs, e⟩ := List.mem_map.mp this
  rw [hv, ← e]
  exact h.2 s hs

theorem RegWF_updateSeries {r : Reg V} (h : RegWF r) {name : Bytes} {labels : Labels}
    {f : VecM V → Series V → Series V} (hf : ∀ v s, (f v s).labels = s.labels) :
    RegWF (updateSeries r name labels f) :=
  RegWF_updateMetric h name _ (fun _ => rfl) fun m _ hm =>
    EntryWF_of_labels hm rfl (updSeriesIn_labels labels f hf m)

theorem RegWF_sweep {r : Reg V} (h : RegWF r) (now : Int) : RegWF (r.sweep now) := by
  rw [regWF_iff] at h ⊢
  rw [sweep_metrics, List.map_map]
  refine ⟨h.1, fun m' hm' => ?_⟩
  obtain ⟨m, hm, e⟩ := List.mem_map.mp hm'
  subst e
  exact ⟨((List.filter_sublist).map _).nodup (h.2 m hm).1, fun s hs => (h.2 m hm).2 s (List.mem_filter.mp hs).1⟩

theorem nodup_map_append_new {α κ : Type} [BEq κ] [LawfulBEq κ] (key : α → κ) {l : List α} {x : α}
    (h : (l.map key).Nodup) (hx : l.find? (key · == key x) = none) : ((l ++ [x]).map key).Nodup := by
  rw [List.map_append, List.nodup_append]
  refine ⟨h, by simp, fun k hk k' hk' e => ?_⟩
  obtain ⟨y, hy, rfl⟩ := List.mem_map.mp hk
  rw [List.mem_singleton.mp hk'] at e
  exact List.find?_eq_none.mp hx y hy (beq_iff_eq.mpr e)

theorem RegWF_getOrCreate {r r' : Reg V} (h : RegWF r) {ty : MType} {a : GetArgs V} {now : Int}
    (hg : r.getOrCreate ty a now = .ok (.ok r')) : RegWF r' := by
  rcases getOrCreate_ok_cases hg with ⟨_, e⟩ | ⟨hh, hc, _, _, _, e⟩
  · subst e
    exact RegWF_updateMetric h a.name _ (fun _ => rfl) fun m _ hm =>
      EntryWF_of_labels hm rfl (touchEntry_labels a now m)
  · subst e
    have hw : RegWF (r.withMetric ty a.name) := by
      unfold Reg.withMetric
      cases hf : r.find a.name with
      | some m => exact h
      | none =>
        refine (regWF_iff _).mpr ⟨nodup_map_append_new MetricM.name h.names_nodup hf, fun m hm => ?_⟩
        rcases List.mem_append.mp hm with hm | hm
        · exact ((regWF_iff r).mp h).2 m hm
        · rw [List.mem_singleton.mp hm]; exact ⟨List.nodup_nil, fun _ hs => by cases hs⟩
    refine RegWF_updateMetric hw a.name _ (fun _ => rfl) fun m hm hwm => ?_
    -- `m` is `r.entry ty a.name`
    rw [find_withMetric, if_pos rfl] at hm
    cases hm
    have hnone := series?_none_of_miss hh hc
    rw [series?_entry r ty] at hnone
    refine ⟨nodup_map_append_new Series.labels hwm.1 hnone, fun s hs => ?_⟩
    rcases mem_storeIn_series.mp hs with hs | rfl
    · obtain ⟨v, hv, hvn⟩ := hwm.2 s hs
      exact ⟨v, mem_storeIn_vecs.mpr (.inl hv), hvn⟩
    · refine ⟨r.vecFor ty a, mem_storeIn_vecs.mpr ?_, vecFor_names r ty a⟩
      -- the vector that was there is one of the entry's, a new one is added
      cases hv : r.existingVec ty a with
      | none => exact .inr ⟨rfl, rfl⟩
      | some v =>
        rw [existingVec_eq_vec? hg, vec?_entry r ty] at hv
        rw [Reg.vecFor, existingVec_eq_vec? hg, vec?_entry r ty, hv]
        exact .inl (List.mem_of_find?_eq_some hv)

/-- a disjunction as hypothesis: the creation path needs nothing, the hit path that the registered series has its
    vector -/
theorem getOrCreate_vec_self {r r' : Reg V} {ty : MType} {a : GetArgs V} {now : Int}
    (hg : r.getOrCreate ty a now = .ok (.ok r')) (h : r.series? a.name a.labels = none ∨ RegWF r) :
    r'.vec? a.name (a.labels.map (·.1)) = some (r.vecFor ty a) := by
  rw [getOrCreate_vec? hg]
  split
  · rfl
  · rename_i hn
    have hh : r.isHit ty a = true := by
      cases hh : r.isHit ty a with
      | true => rfl
      | false => exact absurd ⟨rfl, rfl, hh⟩ hn
    have hs := ((isHit_iff _ _ _).mp hh).2
    rcases h with h | hw
    · rw [h] at hs; cases hs
    · obtain ⟨s, hs⟩ := Option.isSome_iff_exists.mp hs
      obtain ⟨v, hv⟩ := hw.vec?_of_series? hs
      rw [hv, Reg.vecFor, existingVec_eq_vec? hg, hv]; rfl

theorem find?_filter_key {α κ : Type} [BEq κ] [LawfulBEq κ] (key : α → κ) (q : α → Bool) (k : κ) :
    ∀ l : List α, (l.map key).Nodup → (l.filter q).find? (key · == k) = (l.find? (key · == k)).filter q := by
  intro l
  induction l with
  | nil => intro _; rfl
  | cons x t ih =>
    intro h
    rw [List.map_cons, List.nodup_cons] at h
    by_cases hk : key x = k
    · subst hk
      cases hq : q x with
      | true => simp [Option.filter, hq]
      | false =>
        simp only [List.filter_cons, hq, Bool.false_eq_true, if_false, List.find?_cons, beq_self_eq_true, Option.filter]
        rw [List.find?_eq_none]
        intro y hy hky
        exact h.1 ((by simpa using hky : key y = key x) ▸ List.mem_map_of_mem (List.mem_filter.mp hy).1)
    · have : (key x == k) = false := by simpa using hk
      cases hq : q x with
      | true => simp only [List.filter_cons, hq, if_true, List.find?_cons, this]; exact ih h.2
      | false => simp only [List.filter_cons, hq, Bool.false_eq_true, if_false, List.find?_cons, this]; exact ih h.2

theorem RegWF.series?_sweep {r : Reg V} (h : RegWF r) (now : Int) (name : Bytes) (L : Labels) :
    (r.sweep now).series? name L = (r.series? name L).filter (keepSeries now) := by
  unfold Reg.series?
  rw [find_sweep]
  cases hf : r.find name with
  | none => rfl
  | some m => exact find?_filter_key (fun s : Series V => s.labels) _ L m.series (h.labels_nodup m (mem_of_find hf).1)

end SE
