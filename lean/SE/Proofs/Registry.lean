import SE.Spec.Registry
/-
The registry read through `Reg.find`: every lookup (`Reg.type?`, `Reg.vec?`, `Reg.series?`) is a function of `find`,
so what an operation does to the lookups is read off what it does to `find`. A successful `getOrCreate` replaces the
entry of the requested name by `Reg.entryAfter` and leaves every other entry alone (`find_getOrCreate`). Predicates
over the metric list go through membership instead (`mem_updateMetric`, `mem_create`). The same reading for
`updateSeries` and the sweep; what only grows along events (`Reg.Grows`); the two companion-name checks in terms of
`companionNames`; the families a scrape collects (`familyOf`, `mem_families`).
-/
set_option linter.unusedSectionVars false
namespace SE
variable {V : Type} [NumOps V]

/-! ### keyed lists: metrics by name, vectors by label names, series by label set -/

theorem find?_map_keep {α : Type} (l : List α) (g : α → α) (p : α → Bool) (hp : ∀ x, p (g x) = p x) :
    (l.map g).find? p = (l.find? p).map g := by
  rw [List.find?_map, show p ∘ g = p from funext hp]

theorem find?_map_fix {α : Type} (l : List α) (g : α → α) (p : α → Bool) (hp : ∀ x, p (g x) = p x)
    (hfix : ∀ x, p x = true → g x = x) : (l.map g).find? p = l.find? p := by
  rw [find?_map_keep l g p hp]
  cases h : l.find? p with
  | none => rfl
  | some x => simp [hfix x (List.find?_some h)]

theorem filter_map_fix {α : Type} (l : List α) (g : α → α) (q : α → Bool) (hq : ∀ x, q (g x) = q x)
    (hfix : ∀ x, q x = true → g x = x) : (l.map g).filter q = l.filter q := by
  rw [List.filter_map, show q ∘ g = q from funext hq]
  exact (List.map_congr_left fun x hx => hfix x (List.mem_filter.mp hx).2).trans (List.map_id _)

theorem map_key_map {α κ : Type} (key : α → κ) (g : α → α) (hg : ∀ x, key (g x) = key x) (l : List α) :
    (l.map g).map key = l.map key := by
  rw [List.map_map]
  exact List.map_congr_left fun x _ => hg x

theorem key_ite {α κ : Type} (key : α → κ) (h : α → α) (hk : ∀ x, key (h x) = key x) (c : Bool) (x : α) :
    key (if c then h x else x) = key x := by
  split
  · exact hk x
  · rfl

theorem find?_map_at {α κ : Type} [BEq κ] [LawfulBEq κ] [DecidableEq κ] (key : α → κ) (k0 : κ) (h : α → α)
    (hk : ∀ x, key (h x) = key x) (l : List α) (k : κ) :
    (l.map fun x => if key x == k0 then h x else x).find? (key · == k) =
      (l.find? (key · == k)).map fun x => if k = k0 then h x else x := by
  rw [find?_map_keep l _ (key · == k) (fun x => congrArg (· == k) (key_ite key h hk _ x))]
  cases hf : l.find? (key · == k) with
  | none => rfl
  | some x =>
    have hx : key x = k := by simpa using List.find?_some hf
    simp only [Option.map_some, hx, beq_iff_eq]

theorem find?_append_new {α κ : Type} [BEq κ] [LawfulBEq κ] [DecidableEq κ] (key : α → κ) {l : List α} {x : α}
    (k : κ) (hx : l.find? (key · == key x) = none) :
    (l ++ [x]).find? (key · == k) = if k = key x then some x else l.find? (key · == k) := by
  rw [List.find?_append, List.find?_singleton]
  by_cases e : k = key x
  · rw [if_pos e, e, hx, if_pos (beq_self_eq_true _)]; rfl
  · rw [if_neg e, if_neg (by simpa using Ne.symm e), Option.or_none]

theorem find_updateMetric (r : Reg V) (name : Bytes) (f : MetricM V → MetricM V)
    (hf : ∀ m, (f m).name = m.name) (name' : Bytes) :
    (updateMetric r name f).find name' = (r.find name').map fun m => if name' = name then f m else m :=
  find?_map_at MetricM.name name f hf r.metrics name'

theorem updateMetric_others (r : Reg V) (name : Bytes) (f : MetricM V → MetricM V) (hf : ∀ m, (f m).name = m.name) :
    (updateMetric r name f).metrics.filter (·.name != name) = r.metrics.filter (·.name != name) :=
  filter_map_fix _ _ _ (fun m => congrArg (· != name) (key_ite MetricM.name f hf _ m))
    fun m hm => if_neg (by simpa using hm)

theorem mem_updateMetric {r : Reg V} {name : Bytes} {f : MetricM V → MetricM V} {m' : MetricM V}
    (hm' : m' ∈ (updateMetric r name f).metrics) :
    ∃ m, m ∈ r.metrics ∧ ((m.name = name ∧ m' = f m) ∨ (m.name ≠ name ∧ m' = m)) := by
  obtain ⟨m, hm, rfl⟩ := List.mem_map.mp hm'
  refine ⟨m, hm, ?_⟩
  by_cases hnm : m.name = name
  · exact .inl ⟨hnm, if_pos (beq_iff_eq.mpr hnm)⟩
  · exact .inr ⟨hnm, if_neg (mt beq_iff_eq.mp hnm)⟩

theorem type?_of_find_map {r r' : Reg V} {name : Bytes} {g : MetricM V → MetricM V}
    (h : r'.find name = (r.find name).map g) (hg : ∀ m, (g m).ty = m.ty) : r'.type? name = r.type? name := by
  unfold Reg.type?
  rw [h]
  cases r.find name with
  | none => rfl
  | some m => simp only [Option.map_some, hg]

theorem vec?_of_find_map {r r' : Reg V} {name : Bytes} {g : MetricM V → MetricM V}
    (h : r'.find name = (r.find name).map g) (hg : ∀ m, (g m).vecs = m.vecs) (names : List Bytes) :
    r'.vec? name names = r.vec? name names := by
  unfold Reg.vec?
  rw [h]
  cases r.find name with
  | none => rfl
  | some m => simp only [Option.map_some, Option.bind_some, hg]

theorem series?_labels {r : Reg V} {name : Bytes} {L : Labels} {s : Series V} (h : r.series? name L = some s) :
    s.labels = L := by
  obtain ⟨m, _, hs⟩ := Option.bind_eq_some_iff.mp h
  simpa using List.find?_some hs

theorem Reg.type?_of_series? {r : Reg V} {name : Bytes} {L : Labels} {s : Series V}
    (h : r.series? name L = some s) : ∃ ty, r.type? name = some ty := by
  obtain ⟨m, hf, _⟩ := Option.bind_eq_some_iff.mp h
  exact ⟨m.ty, congrArg (Option.map MetricM.ty) hf⟩

theorem conflicts_iff (r : Reg V) (name : Bytes) (ty : MType) :
    r.conflicts name ty = true ↔ ∃ t, r.type? name = some t ∧ t ≠ ty := by
  unfold Reg.conflicts Reg.type?
  cases r.find name <;> simp

theorem taken_iff (r : Reg V) (name : Bytes) : r.taken name = true ↔ ∃ t, r.type? name = some t := by
  unfold Reg.taken Reg.type?
  cases r.find name <;> simp

/-! ### the `let`s of `Reg.getOrCreate` as definitions (what each mirrors is said in the model), put back together in
`Reg.getOrCreate_eq` -/

def Reg.isHit (r : Reg V) (ty : MType) (a : GetArgs V) : Bool :=
  match r.find a.name with
  | some m => m.ty == ty && m.series.any (·.labels == a.labels)
  | none => false

def touchSeries (a : GetArgs V) (now : Int) (s : Series V) : Series V :=
  if s.labels == a.labels then { s with last := now, ttl := a.ttl } else s

def touchEntry (a : GetArgs V) (now : Int) (m : MetricM V) : MetricM V :=
  { m with series := m.series.map (touchSeries a now) }

def Reg.touch (r : Reg V) (a : GetArgs V) (now : Int) : Reg V := updateMetric r a.name (touchEntry a now)

def Reg.companion (r : Reg V) (ty : MType) (name : Bytes) : Bool :=
  match ty with
  | .counter => r.histNameCollision name
  | .gauge => r.histNameCollision name
  | .histogram => r.taken (name ++ sfxSum) || r.taken (name ++ sfxCount) || r.taken (name ++ sfxBucket) || r.histNameCollision name
  | .summary => r.taken (name ++ sfxSum) || r.taken (name ++ sfxCount) || r.histNameCollision name

def reservedFor : MType → Bytes
  | .histogram => strBytes "le"
  | .summary => strBytes "quantile"
  | _ => []

def Reg.existingVec (r : Reg V) (ty : MType) (a : GetArgs V) : Option (VecM V) :=
  (r.find a.name).bind fun m => if m.ty == ty then m.vecs.find? (·.names == a.labels.map (·.1)) else none

def Reg.helpFor (r : Reg V) (a : GetArgs V) : Bytes := (r.firstHelp? a.name).getD a.help

def Reg.vecFor (r : Reg V) (ty : MType) (a : GetArgs V) : VecM V :=
  (r.existingVec ty a).getD { names := a.labels.map (·.1), help := r.helpFor a, bounds := a.bounds, maxAge := a.maxAge,
                              ageBuckets := a.ageBuckets, objectives := a.objectives }

theorem firstHelp?_some_iff (r : Reg V) (name : Bytes) (h : Bytes) :
    r.firstHelp? name = some h ↔ ∃ m v rest, r.find name = some m ∧ m.vecs = v :: rest ∧ v.help = h := by
  simp only [Reg.firstHelp?, Option.map_eq_some_iff, Option.bind_eq_some_iff, List.head?_eq_some_iff]
  constructor
  · rintro ⟨v, ⟨m, hm, rest, hr⟩, e⟩; exact ⟨m, v, rest, hm, hr, e⟩
  · rintro ⟨m, v, rest, hm, hr, e⟩; exact ⟨v, ⟨m, hm, rest, hr⟩, e⟩

theorem firstHelp?_none_iff (r : Reg V) (name : Bytes) :
    r.firstHelp? name = none ↔ ∀ m, r.find name = some m → m.vecs = [] := by
  simp only [Reg.firstHelp?, Option.map_eq_none_iff, Option.bind_eq_none_iff, List.head?_eq_none_iff]

def ctorPanic (ty : MType) (vec : VecM V) : Option Panic :=
  if ty == .histogram && !strictlyIncreasing vec.bounds then some .bucketsNotIncreasing else
  if ty == .summary && vec.maxAge < 0 then some .negativeMaxAge else
  if ty == .summary && (if vec.maxAge == 0 then 600000000000 else vec.maxAge) / ((if vec.ageBuckets == 0 then 5 else vec.ageBuckets) : Int) == 0
  then some .summaryHang else none

def freshSeries (ty : MType) (vec : VecM V) (a : GetArgs V) (now : Int) : Series V :=
  { labels := a.labels, ttl := a.ttl, last := now, f := NumOps.zero, n := 0,
    bk := List.replicate (if ty == .histogram then (effBounds vec.bounds).length + 1 else 0) 0 }

theorem freshSeries_isFresh (ty : MType) (vec : VecM V) (a : GetArgs V) (now : Int) :
    (freshSeries ty vec a now).isFresh :=
  ⟨rfl, rfl, fun _ hx => (List.mem_replicate.mp hx).2⟩

def newMetric (ty : MType) (name : Bytes) : MetricM V := { name := name, ty := ty, vecs := [], series := [] }

def Reg.withMetric (r : Reg V) (ty : MType) (name : Bytes) : Reg V :=
  if (r.find name).isSome then r else { r with metrics := r.metrics ++ [newMetric ty name] }

def storeIn (ty : MType) (r : Reg V) (a : GetArgs V) (now : Int) (m : MetricM V) : MetricM V :=
  { m with vecs := if (r.existingVec ty a).isSome then m.vecs else m.vecs ++ [r.vecFor ty a],
           series := m.series ++ [freshSeries ty (r.vecFor ty a) a now] }

def Reg.create (r : Reg V) (ty : MType) (a : GetArgs V) (now : Int) : Reg V :=
  updateMetric (r.withMetric ty a.name) a.name (storeIn ty r a now)

/-- the three constructor checks of `Reg.getOrCreate`, an `Option Panic` matched at once, as the cascade of `if`s
    `Reg.getOrCreate_eq` states them in -/
theorem match3 {β : Type} (c1 c2 c3 : Bool) (a b c : Panic) (X : Except Panic β) :
    (match (if c1 then some a else if c2 then some b else if c3 then some c else none : Option Panic) with
      | some pn => .error pn
      | none => X) =
    if c1 then .error a else if c2 then .error b else if c3 then .error c else X := by
  cases c1 <;> cases c2 <;> cases c3 <;> rfl

theorem Reg.getOrCreate_eq (r : Reg V) (ty : MType) (a : GetArgs V) (now : Int) :
    r.getOrCreate ty a now =
      if r.isHit ty a then .ok (.ok (r.touch a now)) else
      if r.conflicts a.name ty then .ok (.error .conflict) else
      if r.companion ty a.name then .ok (.error .conflict) else
      if labelNamesBad (a.labels.map (·.1)) (reservedFor ty) then .ok (.error .reservedLabel) else
      match ctorPanic ty (r.vecFor ty a) with
      | some pn => .error pn
      | none => .ok (.ok (r.create ty a now)) := by
  unfold ctorPanic
  rw [match3]
  unfold Reg.getOrCreate
  cases ty <;> rfl

theorem getOrCreate_conflict_iff (r : Reg V) (ty : MType) (a : GetArgs V) (now : Int) :
    r.getOrCreate ty a now = .ok (.error .conflict) ↔
      r.isHit ty a = false ∧ (r.conflicts a.name ty = true ∨ r.companion ty a.name = true) := by
  rw [Reg.getOrCreate_eq]
  cases r.isHit ty a with
  | true => simp
  | false =>
    cases r.conflicts a.name ty with
    | true => simp
    | false =>
      cases r.companion ty a.name with
      | true => simp
      | false =>
        cases labelNamesBad (a.labels.map (·.1)) (reservedFor ty) with
        | true => simp
        | false => cases ctorPanic ty (r.vecFor ty a) <;> simp

theorem isHit_iff (r : Reg V) (ty : MType) (a : GetArgs V) :
    r.isHit ty a = true ↔ r.type? a.name = some ty ∧ (r.series? a.name a.labels).isSome = true := by
  unfold Reg.isHit Reg.type? Reg.series?
  cases r.find a.name with
  | none => simp
  | some m =>
    simp only [Option.map_some, Option.bind_some, Bool.and_eq_true, beq_iff_eq, Option.some.injEq,
      List.any_eq_true, List.find?_isSome]

theorem vecFor_names (r : Reg V) (ty : MType) (a : GetArgs V) : (r.vecFor ty a).names = a.labels.map (·.1) := by
  unfold Reg.vecFor
  cases he : r.existingVec ty a with
  | none => rfl
  | some v =>
    obtain ⟨m, _, hv⟩ := Option.bind_eq_some_iff.mp he
    split at hv
    · simpa using List.find?_some hv
    · cases hv

theorem mem_storeIn_vecs {ty : MType} {r : Reg V} {a : GetArgs V} {now : Int} {m : MetricM V} {v : VecM V} :
    v ∈ (storeIn ty r a now m).vecs ↔ v ∈ m.vecs ∨ (r.existingVec ty a = none ∧ v = r.vecFor ty a) := by
  unfold storeIn
  cases r.existingVec ty a with
  | some v0 => simp only [Option.isSome_some, if_true, reduceCtorEq, false_and, or_false]
  | none => simp only [Option.isSome_none, Bool.false_eq_true, if_false, List.mem_append, List.mem_singleton, true_and]

theorem mem_storeIn_series {ty : MType} {r : Reg V} {a : GetArgs V} {now : Int} {m : MetricM V} {s : Series V} :
    s ∈ (storeIn ty r a now m).series ↔ s ∈ m.series ∨ s = freshSeries ty (r.vecFor ty a) a now := by
  unfold storeIn
  rw [List.mem_append, List.mem_singleton]

theorem mem_withMetric {r : Reg V} {ty : MType} {name : Bytes} {m : MetricM V}
    (hm : m ∈ (r.withMetric ty name).metrics) : m ∈ r.metrics ∨ (m = newMetric ty name ∧ r.find name = none) := by
  unfold Reg.withMetric at hm
  cases hf : r.find name with
  | some m0 => rw [hf] at hm; exact .inl hm
  | none =>
    rw [hf] at hm
    rcases List.mem_append.mp hm with h | h
    · exact .inl h
    · exact .inr ⟨List.mem_singleton.mp h, rfl⟩

theorem mem_create {r : Reg V} {ty : MType} {a : GetArgs V} {now : Int} {m' : MetricM V}
    (hm' : m' ∈ (r.create ty a now).metrics) :
    (m' ∈ r.metrics ∧ m'.name ≠ a.name) ∨
    ∃ m, (m ∈ r.metrics ∨ (m = newMetric ty a.name ∧ r.find a.name = none)) ∧ m.name = a.name ∧
      m' = storeIn ty r a now m := by
  obtain ⟨m, hm, ⟨hn, e⟩ | ⟨hn, rfl⟩⟩ := mem_updateMetric hm'
  · exact .inr ⟨m, mem_withMetric hm, hn, e⟩
  · rcases mem_withMetric hm with hm0 | ⟨rfl, _⟩
    · exact .inl ⟨hm0, hn⟩
    · exact absurd rfl hn

theorem touchEntry_labels (a : GetArgs V) (now : Int) (m : MetricM V) :
    (touchEntry a now m).series.map (·.labels) = m.series.map (·.labels) :=
  map_key_map Series.labels _ (fun s => by unfold touchSeries; split <;> rfl) m.series

theorem touchEntry_series? (a : GetArgs V) (now : Int) (m : MetricM V) (L : Labels) :
    (touchEntry a now m).series.find? (·.labels == L) =
      (m.series.find? (·.labels == L)).map fun s => if L = a.labels then { s with last := now, ttl := a.ttl } else s :=
  find?_map_at Series.labels a.labels (fun s => { s with last := now, ttl := a.ttl }) (fun _ => rfl) m.series L

/-- a name that is not registered reads as a new entry without vectors and series: creation under a registered and
    under a new name are then one case -/
def Reg.entry (r : Reg V) (ty : MType) (name : Bytes) : MetricM V := (r.find name).getD (newMetric ty name)

theorem series?_entry (r : Reg V) (ty : MType) (name : Bytes) (L : Labels) :
    r.series? name L = (r.entry ty name).series.find? (·.labels == L) := by
  unfold Reg.series? Reg.entry
  cases r.find name <;> rfl

theorem vec?_entry (r : Reg V) (ty : MType) (name : Bytes) (names : List Bytes) :
    r.vec? name names = (r.entry ty name).vecs.find? (·.names == names) := by
  unfold Reg.vec? Reg.entry
  cases r.find name <;> rfl

theorem find_withMetric (r : Reg V) (ty : MType) (name name' : Bytes) :
    (r.withMetric ty name).find name' = if name' = name then some (r.entry ty name) else r.find name' := by
  unfold Reg.withMetric Reg.entry
  cases h : r.find name with
  | some m =>
    rw [Option.isSome_some, if_pos rfl, Option.getD_some]
    split
    · rename_i e; rw [e, h]
    · rfl
  | none =>
    rw [Option.isSome_none, if_neg Bool.false_ne_true, Option.getD_none]
    exact find?_append_new MetricM.name name' h

def Reg.entryAfter (r : Reg V) (ty : MType) (a : GetArgs V) (now : Int) : MetricM V :=
  if r.isHit ty a then touchEntry a now (r.entry ty a.name) else storeIn ty r a now (r.entry ty a.name)

section getOrCreate
variable {r r' : Reg V} {ty : MType} {a : GetArgs V} {now : Int}

theorem getOrCreate_ok_cases (h : r.getOrCreate ty a now = .ok (.ok r')) :
    (r.isHit ty a = true ∧ r' = r.touch a now) ∨
    (r.isHit ty a = false ∧ r.conflicts a.name ty = false ∧ r.companion ty a.name = false ∧
      labelNamesBad (a.labels.map (·.1)) (reservedFor ty) = false ∧ ctorPanic ty (r.vecFor ty a) = none ∧
      r' = r.create ty a now) := by
  revert h
  rw [Reg.getOrCreate_eq]
  cases r.isHit ty a with
  | true => intro h; cases h; exact .inl ⟨rfl, rfl⟩
  | false =>
    cases r.conflicts a.name ty with
    | true => intro h; cases h
    | false =>
      cases r.companion ty a.name with
      | true => intro h; cases h
      | false =>
        cases labelNamesBad (a.labels.map (·.1)) (reservedFor ty) with
        | true => intro h; cases h
        | false =>
          cases ctorPanic ty (r.vecFor ty a) with
          | some pn => intro h; cases h
          | none => intro h; cases h; exact .inr ⟨rfl, rfl, rfl, rfl, rfl, rfl⟩

theorem find_getOrCreate (hg : r.getOrCreate ty a now = .ok (.ok r')) (name : Bytes) :
    r'.find name = if name = a.name then some (r.entryAfter ty a now) else r.find name := by
  unfold Reg.entryAfter
  rcases getOrCreate_ok_cases hg with ⟨hh, e⟩ | ⟨hh, _, _, _, _, e⟩
  · subst e
    rw [Reg.touch, find_updateMetric r a.name (touchEntry a now) (fun _ => rfl), hh, if_pos rfl]
    split
    · rename_i hn; subst hn
      obtain ⟨m, hf, _⟩ := Option.map_eq_some_iff.mp ((isHit_iff r ty a).mp hh).1
      rw [Reg.entry, hf]; rfl
    · cases r.find name <;> rfl
  · subst e
    rw [Reg.create, find_updateMetric _ a.name (storeIn ty r a now) (fun _ => rfl), find_withMetric, hh]
    split
    · rfl
    · cases r.find name <;> rfl

theorem getOrCreate_pre (hg : r.getOrCreate ty a now = .ok (.ok r')) : r'.pre = r.pre := by
  rcases getOrCreate_ok_cases hg with ⟨_, rfl⟩ | ⟨_, _, _, _, _, rfl⟩
  · rfl
  · unfold Reg.create Reg.withMetric
    split <;> rfl

theorem getOrCreate_others (hg : r.getOrCreate ty a now = .ok (.ok r')) :
    r'.metrics.filter (·.name != a.name) = r.metrics.filter (·.name != a.name) := by
  rcases getOrCreate_ok_cases hg with ⟨_, rfl⟩ | ⟨_, _, _, _, _, rfl⟩
  · exact updateMetric_others r a.name _ (fun _ => rfl)
  · unfold Reg.create
    rw [updateMetric_others _ a.name (storeIn ty r a now) (fun _ => rfl)]
    unfold Reg.withMetric
    split
    · rfl
    · simp [List.filter_append, newMetric]

theorem type_eq_of_not_conflicts {name : Bytes} {t : MType} (hc : r.conflicts name ty = false)
    (h : r.type? name = some t) : t = ty :=
  Decidable.by_contra fun hne => Bool.false_ne_true (hc.symm.trans ((conflicts_iff r name ty).mpr ⟨t, h, hne⟩))

theorem series?_none_of_miss (hh : r.isHit ty a = false) (hc : r.conflicts a.name ty = false) :
    r.series? a.name a.labels = none := by
  refine Option.eq_none_iff_forall_ne_some.mpr fun s hs => ?_
  obtain ⟨t, ht⟩ := Reg.type?_of_series? hs
  have hit := (isHit_iff r ty a).mpr ⟨type_eq_of_not_conflicts hc ht ▸ ht, Option.isSome_of_eq_some hs⟩
  exact Bool.false_ne_true (hh.symm.trans hit)

theorem getOrCreate_type_eq (hg : r.getOrCreate ty a now = .ok (.ok r')) {t : MType} (h : r.type? a.name = some t) :
    t = ty := by
  rcases getOrCreate_ok_cases hg with ⟨hh, _⟩ | ⟨_, hc, _⟩
  · exact Option.some.inj (h.symm.trans ((isHit_iff r ty a).mp hh).1)
  · exact type_eq_of_not_conflicts hc h

theorem entry_ty (hg : r.getOrCreate ty a now = .ok (.ok r')) : (r.entry ty a.name).ty = ty := by
  unfold Reg.entry
  cases hf : r.find a.name with
  | none => rfl
  | some m => exact getOrCreate_type_eq hg (congrArg (Option.map MetricM.ty) hf)

theorem existingVec_eq_vec? (hg : r.getOrCreate ty a now = .ok (.ok r')) :
    r.existingVec ty a = r.vec? a.name (a.labels.map (·.1)) := by
  unfold Reg.existingVec Reg.vec?
  cases hf : r.find a.name with
  | none => rfl
  | some m =>
    rw [Option.bind_some, getOrCreate_type_eq hg (congrArg (Option.map MetricM.ty) hf), beq_self_eq_true, if_pos rfl]
    rfl

theorem getOrCreate_type? (hg : r.getOrCreate ty a now = .ok (.ok r')) (name : Bytes) :
    r'.type? name = if name = a.name then some ty else r.type? name := by
  unfold Reg.type?
  rw [find_getOrCreate hg]
  split
  · have : (r.entryAfter ty a now).ty = (r.entry ty a.name).ty := by unfold Reg.entryAfter; split <;> rfl
    rw [Option.map_some, this, entry_ty hg]
  · rfl

theorem getOrCreate_vec? (hg : r.getOrCreate ty a now = .ok (.ok r')) (name : Bytes) (names : List Bytes) :
    r'.vec? name names =
      if name = a.name ∧ names = a.labels.map (·.1) ∧ r.isHit ty a = false then some (r.vecFor ty a)
      else r.vec? name names := by
  rw [show r'.vec? name names = (r'.find name).bind fun m => m.vecs.find? (·.names == names) from rfl, find_getOrCreate hg]
  by_cases hn : name = a.name
  · subst hn
    rw [if_pos rfl, Option.bind_some, Reg.entryAfter, vec?_entry r ty]
    cases hh : r.isHit ty a with
    | true => rw [if_pos rfl, if_neg (fun h => Bool.noConfusion h.2.2)]; rfl
    | false =>
      rw [if_neg Bool.false_ne_true, storeIn, Reg.vecFor, existingVec_eq_vec? hg, vec?_entry r ty]
      simp only [true_and, and_true]
      cases he : (r.entry ty a.name).vecs.find? (·.names == a.labels.map (·.1)) with
      | some v =>
        rw [Option.isSome_some, if_pos rfl, Option.getD_some]
        split
        · rename_i e; rw [e, he]
        · rfl
      | none =>
        rw [Option.isSome_none, if_neg Bool.false_ne_true, Option.getD_none]
        exact find?_append_new VecM.names names he
  · rw [if_neg hn, if_neg (fun h => hn h.1)]; rfl

/-- the addressed series after a successful `getOrCreate`, on either path: the registered series, or the zero series
    of a creation, with clock and ttl restarted -/
def Reg.refreshed (r : Reg V) (ty : MType) (a : GetArgs V) (now : Int) : Series V :=
  { (r.series? a.name a.labels).getD (freshSeries ty (r.vecFor ty a) a now) with last := now, ttl := a.ttl }

theorem refreshed_labels (r : Reg V) (ty : MType) (a : GetArgs V) (now : Int) : (r.refreshed ty a now).labels = a.labels := by
  unfold Reg.refreshed
  cases h : r.series? a.name a.labels with
  | none => rfl
  | some s => simp only [Option.getD_some]; exact series?_labels h

theorem getOrCreate_series? (hg : r.getOrCreate ty a now = .ok (.ok r')) (name : Bytes) (L : Labels) :
    r'.series? name L = if name = a.name ∧ L = a.labels then some (r.refreshed ty a now) else r.series? name L := by
  rw [show r'.series? name L = (r'.find name).bind fun m => m.series.find? (·.labels == L) from rfl, find_getOrCreate hg]
  by_cases hn : name = a.name
  · subst hn
    rw [if_pos rfl, Option.bind_some, Reg.entryAfter, Reg.refreshed]
    simp only [true_and]
    rcases getOrCreate_ok_cases hg with ⟨hh, _⟩ | ⟨hh, hc, _⟩
    · obtain ⟨s0, hs0⟩ := Option.isSome_iff_exists.mp ((isHit_iff r ty a).mp hh).2
      rw [hh, if_pos rfl, touchEntry_series?, ← series?_entry]
      by_cases e : L = a.labels
      · rw [e, hs0, if_pos rfl, Option.map_some, if_pos rfl]; rfl
      · rw [if_neg e]; simp only [e, if_false, Option.map_id']
    · have hnone := series?_none_of_miss hh hc
      rw [hh, if_neg Bool.false_ne_true, hnone, series?_entry r ty]
      rw [series?_entry r ty] at hnone
      exact find?_append_new Series.labels L hnone
  · rw [if_neg hn, if_neg (fun h => hn h.1)]; rfl

/-- registered types, vectors and series stay (what events do to a registry; the sweep is not among them) -/
structure Reg.Grows (r r' : Reg V) : Prop where
  type : ∀ {name t}, r.type? name = some t → r'.type? name = some t
  vec : ∀ {name names v}, r.vec? name names = some v → r'.vec? name names = some v
  series : ∀ {name L s}, r.series? name L = some s → ∃ s', r'.series? name L = some s'

theorem Reg.Grows.refl (r : Reg V) : r.Grows r := ⟨id, id, fun h => ⟨_, h⟩⟩

theorem Reg.Grows.trans {r1 r2 r3 : Reg V} (h1 : r1.Grows r2) (h2 : r2.Grows r3) : r1.Grows r3 :=
  ⟨h2.type ∘ h1.type, h2.vec ∘ h1.vec, fun h => (h1.series h).elim fun _ => h2.series⟩

theorem getOrCreate_grows (hg : r.getOrCreate ty a now = .ok (.ok r')) : r.Grows r' := by
  refine ⟨fun {name t} h => ?_, fun {name names v} h => ?_, fun {name L s} h => ?_⟩
  · rw [getOrCreate_type? hg]
    split
    · rename_i hn; subst hn; rw [← getOrCreate_type_eq hg h]
    · exact h
  · rw [getOrCreate_vec? hg]
    split
    · rename_i e
      obtain ⟨e1, e2, _⟩ := e
      subst e1; subst e2
      rw [Reg.vecFor, existingVec_eq_vec? hg, h]; rfl
    · exact h
  · rw [getOrCreate_series? hg]
    split
    · exact ⟨_, rfl⟩
    · exact ⟨s, h⟩

end getOrCreate

section updateSeries
variable (r : Reg V) (name : Bytes) (labels : Labels) (f : VecM V → Series V → Series V)

def updSeriesIn (m : MetricM V) : MetricM V :=
  { m with series := m.series.map fun s =>
      if s.labels == labels then
        match m.vecs.find? (·.names == labels.map (·.1)) with
        | some v => f v s
        | none => s
      else s }

theorem find_updateSeries (name' : Bytes) :
    (updateSeries r name labels f).find name' =
      (r.find name').map fun m => if name' = name then updSeriesIn labels f m else m :=
  find_updateMetric r name (updSeriesIn labels f) (fun _ => rfl) name'

theorem updSeriesIn_labels (hf : ∀ v s, (f v s).labels = s.labels) (m : MetricM V) :
    (updSeriesIn labels f m).series.map (·.labels) = m.series.map (·.labels) := by
  refine map_key_map Series.labels _ (fun s => ?_) m.series
  split
  · split
    · exact hf _ _
    · rfl
  · rfl

theorem type?_updateSeries (name' : Bytes) : (updateSeries r name labels f).type? name' = r.type? name' :=
  type?_of_find_map (find_updateSeries r name labels f name') (fun m => by split <;> rfl)

theorem vec?_updateSeries (name' : Bytes) (names : List Bytes) :
    (updateSeries r name labels f).vec? name' names = r.vec? name' names :=
  vec?_of_find_map (find_updateSeries r name labels f name') (fun m => by split <;> rfl) names

/-- what `updateSeries r name labels f` does to the series it addresses: `f` with the series' vector, if there is one -/
def applyUpd (s : Series V) : Series V :=
  match r.vec? name (labels.map (·.1)) with
  | some v => f v s
  | none => s

theorem series?_updateSeries (hf : ∀ v s, (f v s).labels = s.labels) (name' : Bytes) (L : Labels) :
    (updateSeries r name labels f).series? name' L =
      if name' = name ∧ L = labels then (r.series? name labels).map (applyUpd r name labels f)
      else r.series? name' L := by
  unfold Reg.series?
  rw [find_updateSeries]
  by_cases hn : name' = name
  · subst hn
    simp only [if_true, true_and]
    unfold applyUpd Reg.vec?
    cases r.find name' with
    | none => simp
    | some m =>
      simp only [Option.map_some, Option.bind_some, updSeriesIn]
      rw [find?_map_at Series.labels labels _ (fun s => by split <;> simp only [hf]) m.series L]
      by_cases hL : L = labels
      · subst hL; simp
      · simp [hL]
  · simp only [hn, if_false, false_and]
    cases r.find name' <;> rfl

theorem updateSeries_grows (hf : ∀ v s, (f v s).labels = s.labels) : r.Grows (updateSeries r name labels f) := by
  refine ⟨fun h => by rw [type?_updateSeries]; exact h, fun h => by rw [vec?_updateSeries]; exact h,
    fun {n L s} h => ?_⟩
  rw [series?_updateSeries r name labels f hf]
  split
  · rename_i e; rw [e.1, e.2] at h; exact ⟨_, congrArg _ h⟩
  · exact ⟨s, h⟩

theorem updateSeries_others :
    (updateSeries r name labels f).metrics.filter (·.name != name) = r.metrics.filter (·.name != name) :=
  updateMetric_others r name (updSeriesIn labels f) (fun _ => rfl)

end updateSeries

def keepSeries (now : Int) (s : Series V) : Bool := !(s.ttl != 0 && s.last + s.ttl < now)

theorem keepSeries_iff (now : Int) (s : Series V) : keepSeries now s = true ↔ (s.ttl = 0 ∨ now ≤ s.last + s.ttl) := by
  unfold keepSeries
  by_cases h0 : s.ttl = 0 <;> simp [h0]

def sweepMetric (now : Int) (m : MetricM V) : MetricM V := { m with series := m.series.filter (keepSeries now) }

theorem sweep_metrics (r : Reg V) (now : Int) : (r.sweep now).metrics = r.metrics.map (sweepMetric now) := rfl

theorem find_sweep (r : Reg V) (now : Int) (name : Bytes) :
    (r.sweep now).find name = (r.find name).map (sweepMetric now) :=
  find?_map_keep _ _ _ (fun _ => rfl)

theorem type?_sweep (r : Reg V) (now : Int) (name : Bytes) : (r.sweep now).type? name = r.type? name :=
  type?_of_find_map (find_sweep r now name) (fun _ => rfl)

theorem vec?_sweep (r : Reg V) (now : Int) (name : Bytes) (names : List Bytes) :
    (r.sweep now).vec? name names = r.vec? name names :=
  vec?_of_find_map (find_sweep r now name) (fun _ => rfl) names

theorem trimSuffix_append (suf base : Bytes) : trimSuffix suf (base ++ suf) = base := by
  unfold trimSuffix
  rw [if_pos (List.isSuffixOf_iff_suffix.mpr ⟨base, rfl⟩)]
  have : (base ++ suf).length - suf.length = base.length := by simp
  rw [this, List.take_left' rfl]

theorem histNameCollision_iff (r : Reg V) (name : Bytes) :
    r.histNameCollision name = true ↔
      ∃ suf, suf ∈ [sfxBucket, sfxCount, sfxSum] ∧ ∃ base, name = base ++ suf ∧
        ∃ t, r.type? base = some t ∧ t ≠ .counter := by
  unfold Reg.histNameCollision
  simp only [List.any_eq_true, Bool.and_eq_true, conflicts_iff]
  constructor
  · rintro ⟨suf, hs, h, ht⟩
    obtain ⟨base, hb⟩ := List.isSuffixOf_iff_suffix.mp h
    subst hb
    rw [trimSuffix_append] at ht
    exact ⟨suf, hs, base, rfl, ht⟩
  · rintro ⟨suf, hs, base, hb, ht⟩
    subst hb
    exact ⟨suf, hs, List.isSuffixOf_iff_suffix.mpr ⟨base, rfl⟩, by rw [trimSuffix_append]; exact ht⟩

theorem companion_eq_true_iff (r : Reg V) (ty : MType) (name : Bytes) :
    r.companion ty name = true ↔
      r.histNameCollision name = true ∨ ∃ n, n ∈ companionNames name ty ∧ ∃ t, r.type? n = some t := by
  -- the same disjuncts in another order: the model asks for `_sum`, `_count`, `_bucket`, then runs the base-name
  -- check; `companionNames` lists `_count`, `_sum`, `_bucket`
  have : r.companion ty name = (r.histNameCollision name || (companionNames name ty).any r.taken) := by
    cases ty <;> simp only [Reg.companion, companionNames, List.any_cons, List.any_nil, Bool.or_false]
    · rw [Bool.or_comm _ (r.histNameCollision name), Bool.or_comm (r.taken (name ++ sfxSum)), Bool.or_assoc]
    · rw [Bool.or_comm _ (r.histNameCollision name), Bool.or_comm (r.taken (name ++ sfxSum))]
  simp only [this, Bool.or_eq_true, List.any_eq_true, taken_iff]

def familyOf (m : MetricM V) : Family V :=
  { name := m.name, ty := m.ty,
    help := match m.series.head? with
      | some s => ((m.vecs.find? (·.names == s.labels.map (·.1))).map (·.help)).getD []
      | none => [],
    series := m.series.map fun s =>
      (s.labels, s, ((m.vecs.find? (·.names == s.labels.map (·.1))).map (fun v => effBounds v.bounds)).getD []) }

theorem mem_families (r : Reg V) (f : Family V) :
    f ∈ r.families ↔ ∃ m, m ∈ r.metrics ∧ m.series.isEmpty = false ∧ f = familyOf m := by
  unfold Reg.families
  rw [List.mem_filterMap]
  refine exists_congr fun m => and_congr_right fun _ => ?_
  cases m.series.isEmpty with
  | true => simp
  | false => simp only [Bool.false_eq_true, if_false, Option.some.injEq, true_and]; exact eq_comm

end SE
