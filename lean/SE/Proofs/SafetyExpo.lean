import SE.Proofs.History
import SE.Proofs.Within
import SE.Proofs.Escape
/-
For C03: two registry invariants — every metric name is a legal Prometheus name, no series carries a reserved label
name — kept by `getOrCreate` and hence by every step of a history (`ExpoInv_steps`).
-/
set_option linter.unusedSectionVars false
namespace SE
variable {V : Type} [NumOps V]

def NamesLegal (r : Reg V) : Prop := ∀ m, m ∈ r.metrics → legalName m.name = true

/-- no series has a label name with the reserved prefix `__`; no histogram series has the label `le`,
    no summary series the label `quantile` (`checkLabelNames`) -/
def LabelsOk (r : Reg V) : Prop :=
  ∀ m, m ∈ r.metrics → ∀ s, s ∈ m.series → labelNamesBad (s.labels.map (·.1)) (reservedFor m.ty) = false

/-- what C03's theorems on names, labels and duplicate series assume of the starting registry -/
structure ExpoInv (r : Reg V) : Prop where
  wf : RegWF r
  names : NamesLegal r
  labels : LabelsOk r

theorem NamesLegal.entriesOf {r r' : Reg V} (h : NamesLegal r) (hw : r'.EntriesOf r) : NamesLegal r' := fun m' hm' => by
  obtain ⟨m, hm, e, _⟩ := hw m' hm'
  rw [e]; exact h m hm

theorem NamesLegal_getOrCreate {r r' : Reg V} (h : NamesLegal r) {ty : MType} {a : GetArgs V} {now : Int}
    (hn : legalName a.name = true) (hg : r.getOrCreate ty a now = .ok (.ok r')) : NamesLegal r' := by
  rcases getOrCreate_ok_cases hg with ⟨_, rfl⟩ | ⟨_, _, _, _, _, rfl⟩
  · exact h.entriesOf (entriesOf_touch r a now)
  · intro m' hm'
    rcases mem_create hm' with ⟨hm, _⟩ | ⟨m, _, hnm, rfl⟩
    · exact h m' hm
    · exact (congrArg legalName hnm).trans hn

theorem LabelsOk.within {r r' : Reg V} (h : LabelsOk r) (hw : r'.Within r) : LabelsOk r' := fun m' hm' s' hs' => by
  obtain ⟨m, hm, ⟨_, ety, _⟩, hser⟩ := hw.2 m' hm'
  obtain ⟨s, hs, e⟩ := hser s' hs'
  rw [ety, e]; exact h m hm s hs

theorem LabelsOk_getOrCreate {r r' : Reg V} (hw : RegWF r) (h : LabelsOk r) {ty : MType} {a : GetArgs V} {now : Int}
    (hg : r.getOrCreate ty a now = .ok (.ok r')) : LabelsOk r' := by
  rcases getOrCreate_ok_cases hg with ⟨_, rfl⟩ | ⟨_, _, _, hl, _, rfl⟩
  · exact h.within (within_touch r a now)
  · intro m' hm' s' hs'
    rcases mem_create hm' with ⟨hm, _⟩ | ⟨m, hm, hn, rfl⟩
    · exact h m' hm s' hs'
    · show labelNamesBad (s'.labels.map (·.1)) (reservedFor m.ty) = false
      rw [mem_storeIn_series] at hs'
      rcases hm with hm0 | ⟨rfl, _⟩
      · rcases hs' with hs' | rfl
        · exact h m hm0 s' hs'
        · -- a registered name is served under its own type
          rw [getOrCreate_type_eq hg (t := m.ty) (hn ▸ hw.type?_of_mem hm0)]; exact hl
      · rcases hs' with hs' | rfl
        · cases hs'
        · exact hl

/-- the name `handleEvent` registers is the escape of a non-empty string -/
theorem evTarget_name_legal {p : Pipe V} {rx : Rx} {ev : Ev V} {tags : Labels} {c : Counts} {pl : Plan V}
    (h : evTarget p rx ev tags = some (c, pl)) : legalName pl.2.1.name = true := by
  obtain ⟨_, _, nm, hn, hpl⟩ := evTarget_spec h
  obtain ⟨_, raw, hne, hnm, _⟩ := evNamed_ok hn
  rw [hpl, (evPlan_args p rx ev nm _).1, hnm]
  exact legal_specEscape raw hne

theorem ExpoInv_steps (rx : Rx) : StepInv rx (fun _ => True) (fun p : Pipe V => ExpoInv p.reg) (fun _ => True) :=
  StepInv.ofReg (I := ExpoInv)
    (fun hi ht hg => ⟨RegWF_getOrCreate hi.wf hg, NamesLegal_getOrCreate hi.names (evTarget_name_legal ht) hg,
      LabelsOk_getOrCreate hi.wf hi.labels hg⟩)
    (fun hk hi => ⟨RegWF_updateSeries hi.wf hk, hi.names.entriesOf (entriesOf_updateSeries _ _ _ _),
      hi.labels.within (within_updateSeries _ _ _ hk)⟩)
    (fun r now hi => ⟨RegWF_sweep hi.wf now, hi.names.entriesOf (entriesOf_sweep r now),
      hi.labels.within (within_sweep r now)⟩)

theorem labelNamesBad_false_iff (names : List Bytes) (reserved : Bytes) :
    labelNamesBad names reserved = false ↔
      ∀ n, n ∈ names → reservedPrefix.isPrefixOf n = false ∧ (reserved ≠ [] → n ≠ reserved) := by
  unfold labelNamesBad
  rw [List.any_eq_false]
  refine forall_congr' fun n => forall_congr' fun _ => ?_
  cases reserved <;> simp [-List.isPrefixOf_iff_prefix]

end SE
