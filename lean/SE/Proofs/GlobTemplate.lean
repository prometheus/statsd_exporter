import SE.Proofs.Template
/-
C11, glob side: `compileTemplate` / `Formatter.format` (`NewTemplateFormatter` / `Format`) compute `expandSpec`, for
every template (since the repair a7bcc3e the formatter has `regexp.Expand`'s reference syntax). The formatter
escapes `%`, scans the escaped template once (`substRefs`) and leaves the rest to `Sprintf`; the specification scans
the template itself. The proof is a parallel induction over the two scans (`substRefs_agrees`): both read the same
thing at the head (`headOf_escapePct`), and `Sprintf` turns what the formatter prepends to the format string into
what the specification prepends (`agrees_step`).
-/
namespace SE

theorem sprintfS_cons_plain {b : UInt8} (hb : (b == cPct) = false) (rest : Bytes) (args : List Bytes) :
    sprintfS (b :: rest) args = (sprintfS rest args).map (b :: ·) := by
  rw [sprintfS.eq_def]; simp [hb]

theorem sprintfS_pct_pct (R : Bytes) (args : List Bytes) :
    sprintfS (cPct :: cPct :: R) args = (sprintfS R args).map (cPct :: ·) := by
  rw [sprintfS.eq_def]
  have : (cPct == (115 : UInt8)) = false := by decide
  simp [this]

theorem sprintfS_pct_s (a R : Bytes) (as : List Bytes) :
    sprintfS (cPct :: 115 :: R) (a :: as) = (sprintfS R as).map (a ++ ·) := by
  rw [sprintfS.eq_def]; simp

theorem sprintfS_escapePct : ∀ (l rest : Bytes) (args : List Bytes),
    sprintfS (escapePct l ++ rest) args = (sprintfS rest args).map (l ++ ·) := by
  intro l
  induction l with
  | nil => intro rest args; simp [escapePct]
  | cons b l ih =>
    intro rest args
    rcases escapePct_cons_cases b l with ⟨rfl, h⟩ | ⟨hb, h⟩
    · rw [h, List.cons_append, List.cons_append, sprintfS_pct_pct, ih rest args, Option.map_map]; rfl
    · rw [h, List.cons_append, sprintfS_cons_plain hb, ih rest args, Option.map_map]; rfl

/-- what the formatter makes of a well-formed reference `name`, given the result for the rest -/
def refStep (n : Nat) (name : Bytes) (o : Bytes × List Nat × Bool) : Bytes × List Nat × Bool :=
  match rxNum name with
  | some idx =>
    if idx > n || idx < 1 then (o.1, o.2.1, true)
    else ([cPct, 115] ++ o.1, (idx - 1) :: o.2.1, true)
  | none => (o.1, o.2.1, true)

theorem substRefs_nil (n fuel : Nat) : substRefs n fuel [] = some ([], [], false) := by
  cases fuel <;> rfl

theorem substRefs_succ (n fuel : Nat) (b : UInt8) (rest : Bytes) :
    substRefs n (fuel + 1) (b :: rest) = match headOf b rest with
      | .copy => (substRefs n fuel rest).map fun o => (b :: o.1, o.2.1, o.2.2)
      | .esc r => (substRefs n fuel r).map fun o => (cDollar :: o.1, o.2.1, true)
      | .ref name r => (substRefs n fuel r).map (refStep n name)
      | .unmodelled => none := by
  conv => lhs; unfold substRefs
  exact scan_eq_headOf b rest (fun _ => rfl) (fun _ h' => by rw [h', substRefs_nil]; rfl)

theorem headOf_escapePct (b : UInt8) (rest : Bytes) :
    headOf b (escapePct rest) = match headOf b rest with
      | .copy => .copy
      | .esc r => .esc (escapePct r)
      | .ref name r => .ref name (escapePct r)
      | .unmodelled => .unmodelled := by
  unfold headOf
  cases b == cDollar with
  | false => rfl
  | true =>
    cases rest with
    | nil => rfl
    | cons c rest' =>
      have hx := rxExtractU_escapePct (c :: rest')
      -- the escaped rest starts with `c` too, and is `c :: escapePct rest'` when `c` is `$`
      obtain ⟨X, hX, hXc⟩ : ∃ X, escapePct (c :: rest') = c :: X ∧ ((c == cDollar) = true → X = escapePct rest') := by
        rcases escapePct_cons_cases c rest' with ⟨rfl, h⟩ | ⟨_, h⟩
        · exact ⟨_, h, nofun⟩
        · exact ⟨_, h, fun _ => rfl⟩
      rw [hX] at hx ⊢
      dsimp only
      cases hc : (c == cDollar) with
      | true => rw [hXc hc]; rfl
      | false =>
        rw [hx]
        cases rxExtractU (c :: rest') with
        | none => rfl
        | some o => cases o <;> rfl

/-- `x` = the formatter's scan of (the escaped) `t`, `y` = the specification's result on `t`: both are
    outside the modelled fragment, or both inside, and then `Sprintf` on the format string with the
    captures selected by the indexes gives the specified bytes — and if the scan saw no reference and no
    `$$`, the specified bytes are `t` itself. -/
inductive Agrees (caps : List Bytes) (t : Bytes) : Option (Bytes × List Nat × Bool) → Option Bytes → Prop
  | none : Agrees caps t none none
  | some {o out} : sprintfS o.1 (o.2.1.map fun i => caps.getD i []) = some out → (o.2.2 = false → out = t) →
      Agrees caps t (some o) (some out)

/-- one step of the parallel scan: the formatter prepends `fmt` to the format string and `idxs` to the indexes, the
    specification prepends `out`, and `Sprintf` turns `fmt`, consuming the captures at `idxs`, into `out` (`hs`);
    `g` is what the step does to the flag: where it can leave the flag `false`, the step copies `out` (`hg`) -/
theorem agrees_step {caps : List Bytes} {t t' : Bytes} {x : Option (Bytes × List Nat × Bool)} {y : Option Bytes}
    (fmt out : Bytes) (idxs : List Nat) (g : Bool → Bool)
    (hs : ∀ R A, sprintfS (fmt ++ R) (idxs.map (fun i => caps.getD i []) ++ A) = (sprintfS R A).map (out ++ ·))
    (hg : ∀ fl, g fl = false → fl = false ∧ t' = out ++ t) (h : Agrees caps t x y) :
    Agrees caps t' (x.map fun o => (fmt ++ o.1, idxs ++ o.2.1, g o.2.2)) (y.map (out ++ ·)) := by
  cases h with
  | none => exact .none
  | some h1 h2 =>
    refine .some ?_ fun hf => ?_
    · dsimp only
      rw [List.map_append, hs, h1]; rfl
    · obtain ⟨hfl, ht⟩ := hg _ hf
      rw [h2 hfl, ht]

/-- a well-formed reference: `%s` and the capture's index on the formatter's side, the capture on the
    specification's; nothing on either side for `$0`, an index beyond the rule's captures (`hrel`) or a
    name that is no number -/
theorem agrees_ref (n : Nat) (caps caps' : List Bytes)
    (hrel : ∀ i, caps'.getD i [] = if i < n then caps.getD i [] else [])
    (name : Bytes) {t t' : Bytes} {x : Option (Bytes × List Nat × Bool)} {y : Option Bytes} (h : Agrees caps t x y) :
    Agrees caps t' (x.map (refStep n name)) (y.map (specSub caps' name ++ ·)) := by
  have nothing : Agrees caps t' (x.map fun o => (o.1, o.2.1, true)) (y.map (([] : Bytes) ++ ·)) :=
    agrees_step [] [] [] (fun _ => true) (fun _ _ => Option.map_id'.symm) (fun _ => nofun) h
  unfold refStep specSub
  cases rxNum name with
  | none => exact nothing
  | some idx =>
    dsimp only
    rw [hrel]
    cases hb : (decide (idx > n) || decide (idx < 1)) with
    | true =>
      simp only [Bool.or_eq_true, decide_eq_true_eq] at hb
      by_cases h1 : idx ≥ 1
      · rw [if_pos h1, if_neg (by omega)]
        exact nothing
      · rw [if_neg h1]
        exact nothing
    | false =>
      simp only [Bool.or_eq_false_iff, decide_eq_false_iff_not] at hb
      rw [if_pos (by omega), if_pos (by omega)]
      exact agrees_step [cPct, 115] (caps.getD (idx - 1) []) [idx - 1] (fun _ => true)
        (sprintfS_pct_s _) (fun _ => nofun) h

theorem length_escapePct_le_of_suffix {r s : Bytes} (h : r <:+ s) : (escapePct r).length ≤ (escapePct s).length := by
  obtain ⟨pre, rfl⟩ := h
  rw [escapePct_append, List.length_append]
  exact Nat.le_add_left ..

/-- `caps` are the captures handed to `Format`, `caps'` those of the specification: a reference beyond the rule's `n`
    captures vanishes on the formatter's side, so it must be empty on the specification's (`hrel`). The fuels are
    arbitrary sufficient ones because the formatter scans the escaped template, the specification the template. -/
theorem substRefs_agrees (n : Nat) (caps caps' : List Bytes)
    (hrel : ∀ i, caps'.getD i [] = if i < n then caps.getD i [] else []) :
    ∀ (fuel' : Nat) (t : Bytes) (fuel : Nat), t.length ≤ fuel' → (escapePct t).length ≤ fuel →
      Agrees caps t (substRefs n fuel (escapePct t)) (expandSpec caps' fuel' t)
  | _, [], fuel, _, _ => by
    rw [escapePct_nil, substRefs_nil, expandSpec_nil]
    exact .some rfl fun _ => rfl
  | 0, b :: rest, _, hl, _ => nomatch hl
  | fuel' + 1, b :: rest, fuel, hl, hf => by
    -- the scan goes on with a suffix of `rest`
    have ih : ∀ r fuel, r <:+ rest → (escapePct rest).length ≤ fuel →
        Agrees caps r (substRefs n fuel (escapePct r)) (expandSpec caps' fuel' r) := fun r fuel hr hf =>
      substRefs_agrees n caps caps' hrel fuel' r fuel (Nat.le_trans hr.length_le (Nat.le_of_succ_le_succ hl))
        (Nat.le_trans (length_escapePct_le_of_suffix hr) hf)
    rw [expandSpec_succ]
    rcases escapePct_cons_cases b rest with ⟨rfl, he⟩ | ⟨hp, he⟩ <;> rw [he] at hf ⊢ <;>
      simp only [List.length_cons] at hf
    · -- `%` is doubled in the format string: two copy steps there for one here
      obtain ⟨fuel, rfl⟩ : ∃ k, fuel = k + 2 := ⟨fuel - 2, by omega⟩
      rw [substRefs_succ, headOf_of_ne _ (by decide), substRefs_succ, headOf_of_ne _ (by decide),
        headOf_of_ne _ (by decide), Option.map_map]
      exact agrees_step [cPct, cPct] [cPct] [] id sprintfS_pct_pct (fun _ h => ⟨h, rfl⟩)
        (ih rest fuel List.suffix_rfl (by omega))
    · obtain ⟨fuel, rfl⟩ := Nat.exists_eq_add_one_of_ne_zero (Nat.ne_zero_of_lt hf)
      have hf' := Nat.le_of_succ_le_succ hf
      rw [substRefs_succ, headOf_escapePct]
      rcases headOf_cases b rest with hh | ⟨r, hh, hr⟩ | ⟨name, r, hh, _, hr⟩ | hh <;> simp only [hh]
      · exact agrees_step [b] [b] [] id (sprintfS_cons_plain hp) (fun _ h => ⟨h, rfl⟩)
          (ih rest fuel List.suffix_rfl hf')
      · exact agrees_step [cDollar] [cDollar] [] (fun _ => true)
          (sprintfS_cons_plain (by decide)) (fun _ => nofun) (ih r fuel hr hf')
      · exact agrees_ref n caps caps' hrel name (ih r fuel hr hf')
      · exact .none

theorem compileTemplate_format (tmpl : Bytes) (n : Nat) (caps caps' : List Bytes)
    (hrel : ∀ i, caps'.getD i [] = if i < n then caps.getD i [] else []) :
    (compileTemplate tmpl n).format caps = expandSpec caps' tmpl.length tmpl ∧
    ((compileTemplate tmpl n).unmodelled = true ↔ expandSpec caps' tmpl.length tmpl = none) := by
  have h := substRefs_agrees n caps caps' hrel tmpl.length tmpl (escapePct tmpl).length
    (Nat.le_refl _) (Nat.le_refl _)
  unfold compileTemplate
  dsimp only
  generalize substRefs n (escapePct tmpl).length (escapePct tmpl) = x at h ⊢
  generalize expandSpec caps' tmpl.length tmpl = y at h ⊢
  cases h with
  | none => exact ⟨rfl, fun _ => rfl, fun _ => rfl⟩
  | @some o out h1 h2 =>
    dsimp only
    cases hfl : o.2.2 with
    | true => exact ⟨h1, nofun, nofun⟩
    | false => exact ⟨congrArg some (h2 hfl).symm, nofun, nofun⟩

theorem take_getD (n : Nat) (caps : List Bytes) (i : Nat) :
    (caps.take n).getD i [] = if i < n then caps.getD i [] else [] := by
  rw [List.getD_eq_getElem?_getD, List.getD_eq_getElem?_getD, List.getElem?_take]
  split <;> rfl

end SE
