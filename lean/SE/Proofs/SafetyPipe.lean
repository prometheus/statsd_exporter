import SE.Proofs.History
import SE.Proofs.Within
/-
When a configuration is safe to run (`ConfigSafe`) and when a registry is (`VecsSafe`: every vector was created with
options the client_golang constructors accept). A safe configuration keeps a safe registry safe and never reaches one
of the `Panic` outcomes of `Reg.getOrCreate` (`Safe_steps`).
-/
set_option linter.unusedSectionVars false
namespace SE
variable {V : Type} [NumOps V]

/-- client_golang's stream duration `MaxAge / AgeBuckets` with its defaults (10 min / 5), in ns -/
def streamDuration (maxAge : Int) (ageBuckets : Nat) : Int :=
  (if maxAge == 0 then 600000000000 else maxAge) / ((if ageBuckets == 0 then 5 else ageBuckets) : Int)

/-- the decidable part of "these summary options are accepted": `NewSummary` does not panic
    (`MaxAge ≥ 0`) and `Observe` does not hang (non-zero stream duration) -/
def maxAgeOk (maxAge : Int) (ageBuckets : Nat) : Bool :=
  decide (0 ≤ maxAge) && streamDuration maxAge ageBuckets != 0

/-- no objective makes perks' `Query` index out of range, whatever the number of samples -/
def ObjectivesSafe (objs : List V) : Prop := ∀ (l : Nat) (q : V), q ∈ objs → queryPanics l q = false

/-- summary options that neither panic at construction, nor hang at `Observe`, nor panic at `Gather` -/
structure SummarySafe (maxAge : Int) (ageBuckets : Nat) (objs : List V) : Prop where
  maxAge_nonneg : 0 ≤ maxAge
  duration_ne_zero : streamDuration maxAge ageBuckets ≠ 0
  objectives : ObjectivesSafe objs

def OptsSafe (ty : MType) (bounds : List V) (maxAge : Int) (ageBuckets : Nat) (objs : List V) : Prop :=
  (ty = .histogram → strictlyIncreasing bounds = true) ∧ (ty = .summary → SummarySafe maxAge ageBuckets objs)

def VecSafe (ty : MType) (v : VecM V) : Prop := OptsSafe ty v.bounds v.maxAge v.ageBuckets v.objectives

def ArgsSafe (ty : MType) (a : GetArgs V) : Prop := OptsSafe ty a.bounds a.maxAge a.ageBuckets a.objectives

/-- **registry invariant**: every histogram vector has strictly increasing bounds, every summary
    vector has safe `MaxAge` / `AgeBuckets` / objectives -/
def VecsSafe (r : Reg V) : Prop := ∀ m, m ∈ r.metrics → ∀ v, v ∈ m.vecs → VecSafe m.ty v

/-- the observer type `handleEvent` uses for a rule -/
def ruleObsTy (cfg : Config V) (r : Rule V) : ObsTy :=
  if r.observerType == .dflt then cfg.dObserverType else r.observerType

/-- the bucket list `handleEvent` hands to `GetHistogram` for a rule -/
def ruleBounds (cfg : Config V) (r : Rule V) : List V :=
  if r.hasHistOpts && !r.buckets.isEmpty then r.buckets else cfg.dBuckets

/-- `MaxAge`, `AgeBuckets` handed to `GetSummary` for a rule -/
def ruleMaxAge (cfg : Config V) (r : Rule V) : Int × Nat :=
  if r.hasSummaryOpts then (r.maxAge, r.ageBuckets) else (cfg.dMaxAge, cfg.dAgeBuckets)

/-- the objectives (quantile ranks) handed to `GetSummary` for a rule -/
def ruleObjectives (cfg : Config V) (r : Rule V) : List V :=
  (if r.hasSummaryOpts && !r.quantiles.isEmpty then r.quantiles else cfg.dQuantiles).map (·.1)

/-- every type but `histogram` needs the summary options: `dflt` behaves as summary in `handleEvent` -/
def ObserverSafe (t : ObsTy) (bounds : List V) (maxAge : Int) (ageBuckets : Nat) (objs : List V) : Prop :=
  if t = .histogram then strictlyIncreasing bounds = true else SummarySafe maxAge ageBuckets objs

/-- **a configuration that is safe to run**: for every rule that is not a `drop` rule, and for the
    defaults (used by unmapped events), the options the exporter would hand to the histogram /
    summary constructor are accepted by client_golang and never make `Gather` panic. -/
structure ConfigSafe (cfg : Config V) : Prop where
  rules : ∀ r, r ∈ cfg.rules → r.action ≠ .drop →
    ObserverSafe (ruleObsTy cfg r) (ruleBounds cfg r) (ruleMaxAge cfg r).1 (ruleMaxAge cfg r).2 (ruleObjectives cfg r)
  defaults : ObserverSafe cfg.dObserverType cfg.dBuckets cfg.dMaxAge cfg.dAgeBuckets (cfg.dQuantiles.map (·.1))

def observerOk (t : ObsTy) (bounds : List V) (maxAge : Int) (ageBuckets : Nat) : Bool :=
  if t == .histogram then strictlyIncreasing bounds else maxAgeOk maxAge ageBuckets

/-- the decidable part of `ConfigSafe`: everything but the objectives -/
def configOk (cfg : Config V) : Bool :=
  cfg.rules.all (fun r => r.action == .drop ||
    observerOk (ruleObsTy cfg r) (ruleBounds cfg r) (ruleMaxAge cfg r).1 (ruleMaxAge cfg r).2) &&
  observerOk cfg.dObserverType cfg.dBuckets cfg.dMaxAge cfg.dAgeBuckets

theorem maxAgeOk_iff (maxAge : Int) (ageBuckets : Nat) :
    maxAgeOk maxAge ageBuckets = true ↔ 0 ≤ maxAge ∧ streamDuration maxAge ageBuckets ≠ 0 := by
  unfold maxAgeOk
  simp only [Bool.and_eq_true, decide_eq_true_eq, bne_iff_ne, ne_eq]

theorem summarySafe_iff (maxAge : Int) (ageBuckets : Nat) (objs : List V) :
    SummarySafe maxAge ageBuckets objs ↔ maxAgeOk maxAge ageBuckets = true ∧ ObjectivesSafe objs := by
  rw [maxAgeOk_iff]
  exact ⟨fun h => ⟨⟨h.1, h.2⟩, h.3⟩, fun h => ⟨h.1.1, h.1.2, h.2⟩⟩

theorem observerSafe_iff (t : ObsTy) (bounds : List V) (maxAge : Int) (ageBuckets : Nat) (objs : List V) :
    ObserverSafe t bounds maxAge ageBuckets objs ↔
      observerOk t bounds maxAge ageBuckets = true ∧ (t ≠ .histogram → ObjectivesSafe objs) := by
  unfold ObserverSafe observerOk
  by_cases ht : t = .histogram
  · simp [ht]
  · simp [ht, summarySafe_iff]

theorem summarySafe_default : SummarySafe (V := V) 0 0 [] :=
  ⟨Int.le_refl 0, by decide, fun _ _ h => by cases h⟩

theorem optsSafe_default (t : MType) : OptsSafe (V := V) t [] 0 0 [] :=
  ⟨fun _ => rfl, fun _ => summarySafe_default⟩

theorem ctorPanic_none_of_safe {ty : MType} {v : VecM V} (h : VecSafe ty v) : ctorPanic ty v = none := by
  unfold ctorPanic
  cases ty with
  | counter => rfl
  | gauge => rfl
  | histogram => rw [h.1 rfl]; rfl
  | summary =>
    have hs := h.2 rfl
    rw [if_neg (by simp), if_neg (by simpa using hs.maxAge_nonneg), if_neg]
    exact fun hz => hs.duration_ne_zero (beq_iff_eq.mp (Bool.and_eq_true_iff.mp hz).2)

theorem existingVec_mem {r : Reg V} {ty : MType} {a : GetArgs V} {v : VecM V} (h : r.existingVec ty a = some v) :
    ∃ m, m ∈ r.metrics ∧ m.ty = ty ∧ v ∈ m.vecs := by
  obtain ⟨m, hf, hv⟩ := Option.bind_eq_some_iff.mp h
  cases hty : m.ty == ty with
  | false => rw [hty] at hv; cases hv
  | true => rw [hty] at hv; exact ⟨m, (mem_of_find hf).1, eq_of_beq hty, List.mem_of_find?_eq_some hv⟩

theorem vecFor_safe {r : Reg V} {ty : MType} {a : GetArgs V} (hr : VecsSafe r) (ha : ArgsSafe ty a) :
    VecSafe ty (r.vecFor ty a) := by
  unfold Reg.vecFor
  cases he : r.existingVec ty a with
  | none => exact ha
  | some v =>
    obtain ⟨m, hm, rfl, hv⟩ := existingVec_mem he
    exact hr m hm v hv

/-- the four answers before the constructor checks are no panics (`skip`), and the vector `getOrCreate` would use
    passes those checks -/
theorem getOrCreate_no_panic {r : Reg V} {ty : MType} {a : GetArgs V} (now : Int) (hr : VecsSafe r) (ha : ArgsSafe ty a)
    (pn : Panic) : r.getOrCreate ty a now ≠ .error pn := by
  have skip : ∀ {c : Bool} {x : Except RegErr (Reg V)} {y : Except Panic (Except RegErr (Reg V))},
      (if c = true then .ok x else y) = .error pn → y = .error pn := by
    intro c x y h
    cases c
    · exact h
    · cases h
  intro h
  rw [Reg.getOrCreate_eq] at h
  have h := skip (skip (skip (skip h)))
  rw [ctorPanic_none_of_safe (vecFor_safe hr ha)] at h
  cases h

theorem VecsSafe_empty (pre : List (Bytes × MType × Bytes)) : VecsSafe ({ metrics := [], pre := pre } : Reg V) :=
  fun _ h => by cases h

theorem VecsSafe.entriesOf {r r' : Reg V} (h : VecsSafe r) (hw : r'.EntriesOf r) : VecsSafe r' := fun m' hm' => by
  obtain ⟨m, hm, _, ety, e⟩ := hw m' hm'
  rw [ety, e]; exact h m hm

theorem VecsSafe_getOrCreate {r r' : Reg V} (h : VecsSafe r) {ty : MType} {a : GetArgs V} {now : Int}
    (ha : ∀ t, ArgsSafe t a) (hg : r.getOrCreate ty a now = .ok (.ok r')) : VecsSafe r' := by
  rcases getOrCreate_ok_cases hg with ⟨_, rfl⟩ | ⟨_, _, _, _, _, rfl⟩
  · exact h.entriesOf (entriesOf_touch r a now)
  · intro m' hm' v hv
    rcases mem_create hm' with ⟨hm, _⟩ | ⟨m, hm, _, rfl⟩
    · exact h m' hm v hv
    · have hold : ∀ x, x ∈ m.vecs → VecSafe m.ty x := by
        rcases hm with hm0 | ⟨rfl, _⟩
        · exact h m hm0
        · intro x hx; cases hx
      show VecSafe m.ty v
      rcases mem_storeIn_vecs.mp hv with hv | ⟨he, rfl⟩
      · exact hold v hv
      · -- the new vector is made from the request's options
        rw [Reg.vecFor, he]
        exact ha m.ty

theorem evRule_mem {p : Pipe V} {rx : Rx} {ev : Ev V} {r : Rule V} (h : evRule p rx ev = some r) :
    r ∈ p.mapper.cfg.rules := by
  obtain ⟨m, _, hm⟩ := Option.bind_eq_some_iff.mp h
  exact List.mem_of_getElem? hm

theorem ObserverSafe.of_both {t : ObsTy} {b : List V} {ma : Int} {ab : Nat} {objs : List V}
    (hb : strictlyIncreasing b = true) (hs : SummarySafe ma ab objs) : ObserverSafe t b ma ab objs := by
  unfold ObserverSafe
  split
  · exact hb
  · exact hs

/-- the shape in which `ObserverSafe` is used: `evPlan` builds its request by an `if` on the observer type -/
theorem ObserverSafe.ite {t : ObsTy} {b : List V} {ma : Int} {ab : Nat} {objs : List V} (h : ObserverSafe t b ma ab objs)
    {α : Type} {P : α → Prop} {x y : α} (hx : strictlyIncreasing b = true → P x) (hy : SummarySafe ma ab objs → P y) :
    P (if t == .histogram then x else y) := by
  unfold ObserverSafe at h
  by_cases ht : t = .histogram
  · rw [if_pos ht] at h; rw [if_pos (beq_iff_eq.mpr ht)]; exact hx h
  · rw [if_neg ht] at h; rw [if_neg (mt beq_iff_eq.mp ht)]; exact hy h

/-- safe for the requested type and, the other options being the empty ones, for every other type as well
    (`VecsSafe_getOrCreate` asks for all) -/
theorem evTarget_safe {p : Pipe V} {rx : Rx} {ev : Ev V} {tags : Labels} {c : Counts} {pl : Plan V}
    (hc : ConfigSafe p.mapper.cfg) (ht : evTarget p rx ev tags = some (c, pl)) (t : MType) : ArgsSafe t pl.2.1 := by
  obtain ⟨hd, _, nm, _, rfl⟩ := evTarget_spec ht
  unfold evPlan evObsTy
  cases ev.kind
  · exact optsSafe_default t
  · exact optsSafe_default t
  · refine ObserverSafe.ite (P := fun pl : Plan V => ArgsSafe t pl.2.1) ?_
      (fun h => ⟨fun _ => h, fun _ => summarySafe_default⟩) (fun h => ⟨fun _ => rfl, fun _ => h⟩)
    -- left to show: `ObserverSafe` of the options `evPlan` chooses, those of the matched rule or the defaults
    cases hr : evRule p rx ev with
    | none => exact hc.defaults
    | some r => exact hc.rules r (evRule_mem hr) fun hdrop => by simp [evDropped, hr, hdrop] at hd

/-- every configuration a history reloads is safe -/
def OpsSafe (ops : List (PipeOp V)) : Prop := ∀ m, PipeOp.reload m ∈ ops → ConfigSafe m.cfg

theorem Safe_steps (rx : Rx) :
    StepInv rx (fun m : MState V => ConfigSafe m.cfg) (fun p => ConfigSafe p.mapper.cfg ∧ VecsSafe p.reg) (fun _ => False) where
  event p ev tags h := by
    have hs := handleEvent_step p rx ev tags
    generalize handleEvent p rx ev tags = o at hs ⊢
    cases hs with
    | outside => trivial
    | skipped _ _ => exact h
    | panic ht hg => exact absurd hg (getOrCreate_no_panic p.now h.2 (evTarget_safe h.1 ht _) _)
    | rejected _ _ => exact h
    | applied ht hg =>
      exact ⟨h.1, (VecsSafe_getOrCreate h.2 (evTarget_safe h.1 ht) hg).entriesOf (entriesOf_updateSeries _ _ _ _)⟩
  sweep p h := ⟨h.1, h.2.entriesOf (entriesOf_sweep p.reg p.now)⟩
  advance _ _ h := h
  reload _ _ hm h := ⟨hm, h.2⟩

end SE
