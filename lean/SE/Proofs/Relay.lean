import SE.Spec.Relay
/-
For C17: `relayStep` (SE/Model/Relay.lean) as a relation `RelayStep` and the invariants of a run, collected in
`RelayInv`. Conservation of lines (`RelayShape`) is stated over a ghost list: the datagrams handed to the socket so
far, each as the block of lines it was built from and tagged with the outcome of its send. `relay_concat` and
`relay_quiescent` read the end of a run without failed sends off it.
-/
namespace SE
variable {n : Nat} {sched : List RelayLabel} {s s' : RelaySt} {lab : RelayLabel}

theorem acceptedOf_append (n : Nat) (a b : List RelayLabel) :
    acceptedOf n (a ++ b) = acceptedOf n a ++ acceptedOf n b := by
  simp [acceptedOf]

theorem acceptedOf_snoc (n : Nat) (a : List RelayLabel) (lab : RelayLabel) :
    acceptedOf n (a ++ [lab]) = acceptedOf n a ++ acceptedBy n lab := by
  simp [acceptedOf]

theorem longOf_snoc (n : Nat) (a : List RelayLabel) (lab : RelayLabel) :
    longOf n (a ++ [lab]) = longOf n a + (if longBy n lab then 1 else 0) := by
  simp [longOf, List.countP_append, List.countP_cons]

theorem allOk_snoc {a : List RelayLabel} : AllOk (a ++ [lab]) ↔ AllOk a ∧ lab.sendOk = true := by
  simp [AllOk, or_imp, forall_and]

theorem relayAccept_eq (n : Nat) (l : Bytes) :
    relayAccept n l = if lineFits n l then some (terminate l) else none := by
  unfold relayAccept lineFits terminate
  cases l.isEmpty
  · simp [← Nat.not_le]
  · rfl

theorem terminate_good {l : Bytes} (h : lineFits n l = true) : GoodLine n (terminate l) := by
  simp only [lineFits, Bool.and_eq_true, Bool.not_eq_true', List.isEmpty_eq_false_iff, decide_eq_true_eq] at h
  have hle : l.length + 1 ≤ n := by have := List.length_pos_iff.2 h.1; omega
  unfold terminate
  split
  · next hnl => exact ⟨h.1, Nat.le_of_succ_le hle, eq_of_beq hnl⟩
  · exact ⟨by simp, by simpa using hle, by simp⟩

theorem acceptedBy_good {b : Bytes} (h : b ∈ acceptedBy n lab) : GoodLine n b := by
  cases lab with
  | line l =>
    simp only [acceptedBy, relayAccept_eq, Option.mem_toList] at h
    split at h <;> cases h
    exact terminate_good ‹_›
  | _ => cases h

theorem acceptedOf_good {b : Bytes} (h : b ∈ acceptedOf n sched) : GoodLine n b := by
  obtain ⟨lab, _, hb⟩ := List.mem_flatMap.1 h
  exact acceptedBy_good hb

theorem acceptedOf_eq (n : Nat) (sched : List RelayLabel) :
    acceptedOf n sched = ((linesOf sched).filter (lineFits n)).map terminate := by
  induction sched with
  | nil => rfl
  | cons lab rest ih =>
    unfold acceptedOf at ih ⊢
    rw [List.flatMap_cons, ih]
    cases lab with
    | line l => cases hf : lineFits n l <;> simp [acceptedBy, relayAccept_eq, linesOf, hf]
    | _ => simp [acceptedBy, linesOf]

theorem sendPacket_eq (s : RelaySt) (ok : Bool) :
    s.sendPacket ok = if s.buffer = [] then s else
      { s with sent := s.sent ++ (if ok then [s.buffer] else []),
               lost := s.lost ++ (if ok then [] else [s.buffer]), packets := s.packets + 1 } := by
  cases ok <;> simp [RelaySt.sendPacket]

theorem sendPacket_chan (s : RelaySt) (ok : Bool) : (s.sendPacket ok).chan = s.chan := by
  rw [sendPacket_eq]
  split <;> rfl

theorem sendPacket_counters (s : RelaySt) (ok : Bool) :
    (s.sendPacket ok).longLines = s.longLines ∧ (s.sendPacket ok).relayed = s.relayed ∧
    (ok = true → (s.sendPacket ok).lost = s.lost) := by
  rw [sendPacket_eq]
  split
  · exact ⟨rfl, rfl, fun _ => rfl⟩
  · exact ⟨rfl, rfl, fun h => by simp [h]⟩

/-- `line` covers the three outcomes of `RelayLine` (ignored, over-long, enqueued) at once: it is enabled iff the
    channel has room or there is nothing to enqueue, and `acceptedBy`/`lineLong` say what it adds. -/
inductive RelayStep : RelaySt → RelayLabel → RelaySt → Prop
  | line {s : RelaySt} (l : Bytes) (hen : s.chan.length < relayChanCap ∨ relayAccept s.pktLen l = none) :
      RelayStep s (.line l) { s with
        chan := s.chan ++ acceptedBy s.pktLen (.line l),
        relayed := s.relayed + (acceptedBy s.pktLen (.line l)).length,
        longLines := s.longLines + (if lineLong s.pktLen l then 1 else 0) }
  | fit {s : RelaySt} {b : Bytes} {rest : List Bytes} (ok : Bool) (hch : s.chan = b :: rest)
      (hle : b.length + s.buffer.length ≤ s.pktLen) :
      RelayStep s (.deq ok) { s with chan := rest, buffer := s.buffer ++ b }
  | overflow {s : RelaySt} {b : Bytes} {rest : List Bytes} (ok : Bool) (hch : s.chan = b :: rest)
      (hgt : s.pktLen < b.length + s.buffer.length) :
      RelayStep s (.deq ok) { ({ s with chan := rest } : RelaySt).sendPacket ok with buffer := b }
  | tick {s : RelaySt} (ok : Bool) : RelayStep s (.tick ok) { s.sendPacket ok with buffer := [] }

theorem relayStep_line (s : RelaySt) (l : Bytes) :
    relayStep s (.line l) =
      if s.chan.length < relayChanCap ∨ relayAccept s.pktLen l = none then
        some { s with
          chan := s.chan ++ acceptedBy s.pktLen (.line l),
          relayed := s.relayed + (acceptedBy s.pktLen (.line l)).length,
          longLines := s.longLines + (if lineLong s.pktLen l then 1 else 0) }
      else none := by
  simp only [relayStep, acceptedBy, relayAccept, lineLong]
  by_cases h1 : l.isEmpty = true
  · simp [h1]
  · by_cases h2 : l.length > s.pktLen - 1 <;> simp [h1, h2]

theorem relayStep_iff : relayStep s lab = some s' ↔ RelayStep s lab s' := by
  constructor
  · intro h
    cases lab with
    | line l =>
      rw [relayStep_line] at h
      split at h <;> cases h
      exact .line l ‹_›
    | deq ok =>
      simp only [relayStep] at h
      split at h
      · cases h
      · next b rest hch =>
        split at h <;> cases h
        · exact .overflow ok hch ‹_›
        · exact .fit ok hch (Nat.not_lt.1 ‹_›)
    | tick ok => cases h; exact .tick ok
  · intro h
    cases h with
    | line l hen => rw [relayStep_line, if_pos hen]
    | fit ok hch hle => simp only [relayStep, hch]; rw [if_neg (Nat.not_lt.2 hle)]
    | overflow ok hch hgt => simp only [relayStep, hch]; rw [if_pos hgt]
    | tick ok => rfl

theorem RelayStep.isSome (h : RelayStep s lab s') : (relayStep s lab).isSome = true := by
  rw [relayStep_iff.2 h]; rfl

theorem relayRun_cons {ls : List RelayLabel} :
    relayRun s (lab :: ls) = some s' ↔ ∃ s1, RelayStep s lab s1 ∧ relayRun s1 ls = some s' := by
  simp only [relayRun, Option.bind_eq_some_iff, relayStep_iff]

theorem relayRun_append {a b : List RelayLabel} :
    relayRun s (a ++ b) = some s' ↔ ∃ s1, relayRun s a = some s1 ∧ relayRun s1 b = some s' := by
  induction a generalizing s with
  | nil => simp [relayRun]
  | cons x xs ih =>
    simp only [List.cons_append, relayRun]
    cases relayStep s x with
    | none => simp
    | some s1 => exact ih

theorem relayRun_induct {P : List RelayLabel → RelaySt → Prop}
    (hstep : ∀ {pre s lab s'}, P pre s → RelayStep s lab s' → P (pre ++ [lab]) s')
    {pre : List RelayLabel} {s0 : RelaySt} (h0 : P pre s0) (h : relayRun s0 sched = some s) :
    P (pre ++ sched) s := by
  induction sched generalizing pre s0 with
  | nil =>
    cases h
    simpa using h0
  | cons lab rest ih =>
    obtain ⟨s1, h1, h⟩ := relayRun_cons.1 h
    simpa using ih (hstep h0 h1) h

structure RelayBound (n : Nat) (s : RelaySt) : Prop where
  pkt : s.pktLen = n
  chanCap : s.chan.length ≤ relayChanCap
  chanGood : ∀ b, b ∈ s.chan → GoodLine n b
  bufLe : s.buffer.length ≤ n
  sentLe : ∀ d, d ∈ s.sent → d.length ≤ n
  lostLe : ∀ d, d ∈ s.lost → d.length ≤ n
  pkts : s.packets = s.sent.length + s.lost.length

theorem RelayBound.init (n : Nat) : RelayBound n (relayInit n) := by
  constructor <;> simp [relayInit]

theorem RelayBound.flush (hb : RelayBound n s) (ok : Bool) (buf : Bytes)
    (hbuf : buf.length ≤ n) : RelayBound n { s.sendPacket ok with buffer := buf } := by
  rw [sendPacket_eq]
  split
  · exact { hb with bufLe := hbuf }
  · -- the datagram is the buffer, whichever list it goes to
    exact { hb with
      bufLe := hbuf
      sentLe := List.forall_mem_append.2 ⟨hb.sentLe, by cases ok <;> simp [hb.bufLe]⟩
      lostLe := List.forall_mem_append.2 ⟨hb.lostLe, by cases ok <;> simp [hb.bufLe]⟩
      pkts := by simp only [List.length_append, hb.pkts]; cases ok <;> simp +arith }

theorem RelayBound.pop {b : Bytes} {rest : List Bytes} (hb : RelayBound n s)
    (hch : s.chan = b :: rest) : RelayBound n { s with chan := rest } ∧ b.length ≤ n := by
  have hcap := hb.chanCap
  have hgood := hb.chanGood
  rw [hch] at hcap hgood
  exact ⟨{ hb with chanCap := Nat.le_of_succ_le hcap, chanGood := fun x hx => hgood x (List.mem_cons_of_mem _ hx) },
    (hgood b List.mem_cons_self).le⟩

theorem RelayBound.step (hb : RelayBound n s) (h : RelayStep s lab s') : RelayBound n s' := by
  cases h with
  | line l hen =>
    refine { hb with chanCap := ?_, chanGood := ?_ }
    · have := hb.chanCap
      simp only [List.length_append, acceptedBy]
      rcases hen with hen | hen
      · -- at most one line is enqueued, and there is room for it
        have := Option.length_toList_le (o := relayAccept s.pktLen l)
        omega
      · rw [hen]; exact this
    · exact List.forall_mem_append.2 ⟨hb.chanGood, fun b hbm => acceptedBy_good (hb.pkt ▸ hbm)⟩
  | fit ok hch hle =>
    have := hb.pkt
    exact { (hb.pop hch).1 with bufLe := by simp only [List.length_append]; omega }
  | overflow ok hch hgt => exact (hb.pop hch).1.flush ok _ (hb.pop hch).2
  | tick ok => exact hb.flush ok [] (Nat.zero_le n)

structure RelayCount (n : Nat) (sched : List RelayLabel) (s : RelaySt) : Prop where
  long : s.longLines = longOf n sched
  relayed : s.relayed = (acceptedOf n sched).length

theorem RelayStep.counters (h : RelayStep s lab s') :
    s'.longLines = s.longLines + (if longBy s.pktLen lab then 1 else 0) ∧
    s'.relayed = s.relayed + (acceptedBy s.pktLen lab).length ∧
    (lab.sendOk = true → s'.lost = s.lost) := by
  cases h with
  | line l hen => exact ⟨rfl, rfl, fun _ => rfl⟩
  | fit ok hch hle => exact ⟨rfl, rfl, fun _ => rfl⟩
  | overflow ok hch hgt => exact sendPacket_counters { s with chan := _ } ok
  | tick ok => exact sendPacket_counters s ok

theorem RelayCount.step {pre : List RelayLabel} (hn : s.pktLen = n) (hc : RelayCount n pre s)
    (h : RelayStep s lab s') : RelayCount n (pre ++ [lab]) s' := by
  obtain ⟨h1, h2, _⟩ := h.counters
  exact ⟨by rw [h1, hc.long, longOf_snoc, hn], by rw [h2, hc.relayed, acceptedOf_snoc, List.length_append, hn]⟩

/-- the datagrams handed to the socket so far, each as the block of lines it was built from, tagged
    with the outcome of its send -/
abbrev Blocks := List (List Bytes × Bool)

/-- the accepted lines `acc` are, in order: the blocks of the datagrams handed to the socket, then
    the lines in the sender's buffer, then the channel; `sent`/`lost` are the datagrams of the
    blocks whose send succeeded/failed, in order; no datagram is empty -/
structure RelayShape (s : RelaySt) (acc : List Bytes) (blocks : Blocks) (pending : List Bytes) : Prop where
  cons : acc = (blocks.map (·.1)).flatten ++ pending ++ s.chan
  buf : s.buffer = pending.flatten
  sent : s.sent = (blocks.filter (·.2)).map (·.1.flatten)
  lost : s.lost = (blocks.filter (!·.2)).map (·.1.flatten)
  ne : ∀ g, g ∈ blocks → g.1.flatten ≠ []

variable {acc : List Bytes} {blocks : Blocks} {pending : List Bytes}

theorem RelayShape.init (n : Nat) : RelayShape (relayInit n) [] [] [] := by
  constructor <;> simp [relayInit]

theorem RelayShape.flush (hacc : ∀ b, b ∈ acc → b ≠ []) (hs : RelayShape s acc blocks pending) (ok : Bool)
    (newPending chan' : List Bytes) (hch : s.chan = newPending ++ chan') :
    ∃ blocks', RelayShape { ({ s with chan := chan' } : RelaySt).sendPacket ok with buffer := newPending.flatten }
      acc blocks' newPending := by
  rw [sendPacket_eq]
  split
  · next hb =>
    -- no accepted line is empty, so an empty buffer holds no line
    have hp : pending = [] := List.eq_nil_iff_forall_not_mem.2 fun b hbm =>
      hacc b (by simp [hs.cons, hbm]) (List.flatten_eq_nil_iff.1 (hs.buf ▸ hb) b hbm)
    exact ⟨blocks, { hs with buf := rfl, cons := by simp [hs.cons, hch, hp] }⟩
  · next hb =>
    refine ⟨blocks ++ [(pending, ok)], ?_, rfl, ?_, ?_,
      List.forall_mem_append.2 ⟨hs.ne, List.forall_mem_singleton.2 (hs.buf ▸ hb)⟩⟩
    · simp [hs.cons, hch]
    · cases ok <;> simp [hs.sent, hs.buf]
    · cases ok <;> simp [hs.lost, hs.buf]

theorem RelayShape.step (hn : s.pktLen = n) (hacc : ∀ b, b ∈ acc → b ≠ [])
    (hs : RelayShape s acc blocks pending) (h : RelayStep s lab s') :
    ∃ blocks' pending', RelayShape s' (acc ++ acceptedBy n lab) blocks' pending' := by
  subst hn
  cases h with
  | line l hen => exact ⟨blocks, pending, { hs with cons := by simp [hs.cons] }⟩
  | @fit b rest ok hch hle =>
    exact ⟨blocks, pending ++ [b], { hs with cons := by simp [hs.cons, hch, acceptedBy], buf := by simp [hs.buf] }⟩
  | @overflow b rest ok hch hgt =>
    obtain ⟨blocks', h'⟩ := hs.flush hacc ok [b] rest (by simpa using hch)
    exact ⟨blocks', [b], by simpa [acceptedBy] using h'⟩
  | tick ok =>
    obtain ⟨blocks', h'⟩ := hs.flush hacc ok [] s.chan (by simp)
    exact ⟨blocks', [], by simpa [acceptedBy] using h'⟩

structure RelayInv (n : Nat) (sched : List RelayLabel) (s : RelaySt) : Prop where
  bound : RelayBound n s
  count : RelayCount n sched s
  shape : ∃ blocks pending, RelayShape s (acceptedOf n sched) blocks pending
  lostOk : AllOk sched → s.lost = []

theorem RelayInv.step {pre : List RelayLabel} (hi : RelayInv n pre s) (h : RelayStep s lab s') :
    RelayInv n (pre ++ [lab]) s' := by
  obtain ⟨blocks, pending, hsh⟩ := hi.shape
  refine ⟨hi.bound.step h, hi.count.step hi.bound.pkt h, ?_, fun hall => ?_⟩
  · rw [acceptedOf_snoc]
    exact hsh.step hi.bound.pkt (fun b hb => (acceptedOf_good hb).ne) h
  · obtain ⟨hpre, hlab⟩ := allOk_snoc.1 hall
    rw [h.counters.2.2 hlab]
    exact hi.lostOk hpre

theorem RelayInv.reachable (n : Nat) (sched : List RelayLabel) (s : RelaySt)
    (h : relayRun (relayInit n) sched = some s) : RelayInv n sched s :=
  List.nil_append sched ▸ relayRun_induct (P := RelayInv n) RelayInv.step
    ⟨RelayBound.init n, ⟨rfl, rfl⟩, ⟨[], [], RelayShape.init n⟩, fun _ => rfl⟩ h

theorem relayRun_pktLen (n : Nat) (sched : List RelayLabel) (s : RelaySt)
    (h : relayRun (relayInit n) sched = some s) : s.pktLen = n :=
  (RelayInv.reachable n sched s h).bound.pkt

theorem RelayShape.sent_of_lost_nil (hs : RelayShape s acc blocks pending) (hl : s.lost = []) :
    s.sent = (blocks.map (·.1)).map List.flatten := by
  have hall := hs.lost ▸ hl
  rw [List.map_eq_nil_iff, List.filter_eq_nil_iff] at hall
  rw [hs.sent, List.filter_eq_self.2 fun g hg => by simpa using hall g hg, List.map_map]
  rfl

theorem RelayShape.mem_dgram (hs : RelayShape s acc blocks pending) {d : Bytes}
    (hd : d ∈ s.sent ++ s.lost) : ∃ g, g ∈ blocks ∧ d = g.1.flatten := by
  rw [List.mem_append, hs.sent, hs.lost] at hd
  rcases hd with hd | hd <;>
  · obtain ⟨g, hg, rfl⟩ := List.mem_map.1 hd
    exact ⟨g, (List.mem_filter.1 hg).1, rfl⟩

theorem exists_deq (s : RelaySt) (ok : Bool) {b : Bytes} {rest : List Bytes} (hch : s.chan = b :: rest) :
    ∃ s', RelayStep s (.deq ok) s' ∧ s'.chan = rest := by
  rcases Nat.lt_or_ge s.pktLen (b.length + s.buffer.length) with h | h
  · exact ⟨_, .overflow ok hch h, sendPacket_chan _ ok⟩
  · exact ⟨_, .fit ok hch h, rfl⟩

theorem relay_concat (h : relayRun (relayInit n) sched = some s) (hok : AllOk sched) :
    s.sent.flatten ++ s.buffer ++ s.chan.flatten = (acceptedOf n sched).flatten := by
  have hinv := RelayInv.reachable n sched s h
  obtain ⟨blocks, pending, hs⟩ := hinv.shape
  rw [hs.cons, hs.sent_of_lost_nil (hinv.lostOk hok), hs.buf]
  simp [List.flatten_append, List.flatten_flatten]

theorem relay_quiescent (h : relayRun (relayInit n) sched = some s) (hok : AllOk sched)
    (hc : s.chan = []) (hb : s.buffer = []) :
    s.sent.flatten = (((linesOf sched).filter (lineFits n)).map terminate).flatten := by
  have := relay_concat h hok
  rw [hc, hb, acceptedOf_eq] at this
  simpa using this

end SE
