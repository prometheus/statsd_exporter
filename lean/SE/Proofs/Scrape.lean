import SE.Proofs.History
/-
C01, the compositional core: one step of `handleEvent` either applies a touch (and then changes only
the series that touch addresses, by the touch's update) or leaves the registry alone; by induction
over a history the final state of a series is the fold of its own updates. Also the identity of the
touched series: name, type, labels and, when the event creates the vector, help text and histogram bounds.
-/
set_option linter.unusedSectionVars false
namespace SE
open NumOps
variable {V : Type} [NumOps V]

theorem Series.sameValue_refl (s : Series V) : s.sameValue s := ⟨rfl, rfl, rfl, rfl⟩

theorem Series.sameValue_symm {s t : Series V} (h : s.sameValue t) : t.sameValue s :=
  ⟨h.1.symm, h.2.1.symm, h.2.2.1.symm, h.2.2.2.symm⟩

theorem Series.sameValue_trans {s t u : Series V} (h1 : s.sameValue t) (h2 : t.sameValue u) : s.sameValue u :=
  ⟨h1.1.trans h2.1, h1.2.1.trans h2.2.1, h1.2.2.1.trans h2.2.2.1, h1.2.2.2.trans h2.2.2.2⟩

theorem evPlan_spec (p : Pipe V) (rx : Rx) (ev : Ev V) (nm : Bytes) (sorted : Labels) :
    (evPlan p rx ev nm sorted).1 = evType p rx ev ∧ (evPlan p rx ev nm sorted).2.2 = evUpd p rx ev ∧
    (evPlan p rx ev nm sorted).2.1.bounds = if evType p rx ev = .histogram then evBounds p rx ev else [] := by
  unfold evPlan evType evUpd evBounds
  cases ev.kind
  · exact ⟨rfl, rfl, rfl⟩
  · exact ⟨rfl, rfl, rfl⟩
  · cases evObsTy p rx ev == ObsTy.histogram
    · exact ⟨rfl, rfl, rfl⟩
    · exact ⟨rfl, rfl, rfl⟩

theorem evUpd_value (p : Pipe V) (rx : Rx) (ev : Ev V) : UpdValue (evUpd p rx ev) := by
  -- two series with the same value fields, field by field: every update computes the new value fields from the old
  rintro v ⟨⟩ ⟨⟩ ⟨⟨⟩, ⟨⟩, ⟨⟩, ⟨⟩⟩
  unfold evUpd
  cases ev.kind
  · show (counterAdd _ _).sameValue (counterAdd _ _)
    unfold counterAdd
    cases toUInt64Exact (evValue p rx ev) <;> exact ⟨rfl, rfl, rfl, rfl⟩
  · cases ev.relative <;> exact ⟨rfl, rfl, rfl, rfl⟩
  · exact ⟨rfl, rfl, rfl, rfl⟩

theorem evUpd_keeps (p : Pipe V) (rx : Rx) (ev : Ev V) : UpdKeeps (evUpd p rx ev) :=
  (evPlan_spec p rx ev [] []).2.1 ▸ evPlan_keeps p rx ev [] []

theorem ev_congr {p q : Pipe V} (hm : p.mapper = q.mapper) (rx : Rx) (ev : Ev V) :
    evValue p rx ev = evValue q rx ev ∧ evType p rx ev = evType q rx ev ∧ evUpd p rx ev = evUpd q rx ev := by
  cases p
  cases q
  cases hm
  exact ⟨rfl, rfl, rfl⟩

theorem evHelp_spec (p : Pipe V) (rx : Rx) (ev : Ev V) :
    (∀ r, evRule p rx ev = some r → r.help ≠ [] → evHelp p rx ev = r.help) ∧
    (∀ r, evRule p rx ev = some r → r.help = [] → evHelp p rx ev = defaultHelp) ∧
    (evRule p rx ev = none → evHelp p rx ev = defaultHelp) := by
  unfold evHelp
  refine ⟨fun r hr hne => ?_, fun r hr he => ?_, fun hr => ?_⟩ <;> rw [hr]
  · exact if_neg (mt List.isEmpty_iff.mp hne)
  · exact if_pos (List.isEmpty_iff.mpr he)

section
variable {p p' : Pipe V} {rx : Rx} {ev : Ev V} {tags : Labels} {t : Touch V}

theorem evRawName_unmapped (h : evFound p rx ev = none ∨ evRule p rx ev = none) : evRawName p rx ev = ev.name := by
  unfold evRawName
  rcases h with h | h
  · rw [h]
  · rw [h]; cases evFound p rx ev <;> rfl

/-- `evRawName` reads `m.name = none` (a template outside the modelled fragment) as `[]`, so a raw name that is not empty
    is one the mapper produced -/
theorem evRawName_mapped {m : Mapped} {r : Rule V} (hf : evFound p rx ev = some m) (hr : evRule p rx ev = some r)
    (hne : evRawName p rx ev ≠ []) : m.name = some (evRawName p rx ev) := by
  have he : evRawName p rx ev = m.name.getD [] := by unfold evRawName; rw [hf, hr]
  rw [he] at hne ⊢
  cases hm : m.name with
  | none => rw [hm] at hne; exact absurd rfl hne
  | some _ => rfl

theorem evNamed_name {nm : Bytes} {labels : Labels} {c : Counts} (h : evNamed p rx ev tags = some (.ok (nm, labels, c))) :
    nm = specEscape (evRawName p rx ev) ∧ evRawName p rx ev ≠ [] := by
  obtain ⟨_, raw, hne, hnm, hraw⟩ := evNamed_ok h
  have he : evRawName p rx ev = raw := by
    rcases hraw with ⟨m, r, hf, hr, hn, _⟩ | ⟨hno, rfl, _⟩
    · unfold evRawName; rw [hf, hr]; simp only [hn, Option.getD_some]
    · exact evRawName_unmapped hno
  rw [he]
  exact ⟨hnm, hne⟩

theorem addresses_iff (t : Touch V) (name : Bytes) (L : Labels) :
    t.addresses name L = true ↔ t.name = name ∧ t.labels = L :=
  Bool.and_eq_true_iff.trans (and_congr beq_iff_eq beq_iff_eq)

theorem touchOf_eq_some (h : touchOf p rx ev tags = some t) :
    ∃ c pl reg, evTarget p rx ev tags = some (c, pl) ∧ p.reg.getOrCreate pl.1 pl.2.1 p.now = .ok (.ok reg) ∧
      t = { name := pl.2.1.name, labels := pl.2.1.labels, ty := pl.1, upd := pl.2.2 } ∧
      handleEvent p rx ev tags = some (.ok (appliedPipe p c pl reg)) := by
  unfold touchOf at h
  split at h
  · cases h
  · rename_i c pl ht
    split at h
    · rename_i reg hg
      injection h with h
      exact ⟨c, pl, reg, ht, hg, h.symm, by rw [handleEvent_of_target ht, hg]⟩
    · cases h

theorem touchOf_none_reg (h : handleEvent p rx ev tags = some (.ok p')) (ht : touchOf p rx ev tags = none) :
    p'.reg = p.reg ∧ p'.counts.applied = p.counts.applied := by
  rcases handleEvent_ok_cases h with ⟨c', e, hc⟩ | ⟨c, pl, reg, hta, hg, _⟩
  · subst e; exact ⟨rfl, hc⟩
  · unfold touchOf at ht; rw [hta] at ht; simp only [hg] at ht; cases ht

theorem touchOf_identity (h : touchOf p rx ev tags = some t) :
    t.ty = evType p rx ev ∧ t.upd = evUpd p rx ev ∧ t.labels = (evLabels p rx ev tags).sorted ∧
    t.name = specEscape (evRawName p rx ev) ∧ evRawName p rx ev ≠ [] := by
  obtain ⟨c, pl, reg, ht, _, rfl, _⟩ := touchOf_eq_some h
  obtain ⟨_, _, nm, hn, rfl⟩ := evTarget_spec ht
  have ha := evPlan_args p rx ev nm (evLabels p rx ev tags).sorted
  have hu := evPlan_spec p rx ev nm (evLabels p rx ev tags).sorted
  exact ⟨hu.1, hu.2.1, ha.2.1, ha.1.trans (evNamed_name hn).1, (evNamed_name hn).2⟩

theorem applied_iff_touch (h : handleEvent p rx ev tags = some (.ok p')) :
    p'.counts.applied = p.counts.applied + 1 ↔ ∃ t, touchOf p rx ev tags = some t := by
  cases ht : touchOf p rx ev tags with
  | none =>
    rw [(touchOf_none_reg h ht).2]
    exact ⟨fun h' => absurd h' (Nat.ne_of_lt (Nat.lt_succ_self _)), nofun⟩
  | some t =>
    obtain ⟨c, pl, reg, hta, _, _, he⟩ := touchOf_eq_some ht
    cases he.symm.trans h
    exact ⟨fun _ => ⟨t, rfl⟩, fun _ => congrArg (· + 1) (evTarget_counts hta).1⟩

theorem touchOf_frame (h : handleEvent p rx ev tags = some (.ok p')) (ht : touchOf p rx ev tags = some t)
    {name : Bytes} {L : Labels} (hne : ¬(t.name = name ∧ t.labels = L)) :
    p'.reg.series? name L = p.reg.series? name L := by
  obtain ⟨c, pl, reg, hta, hg, rfl, he⟩ := touchOf_eq_some ht
  cases he.symm.trans h
  exact applied_series_frame hta hg name L fun ⟨h1, h2⟩ => hne ⟨h1.symm, h2.symm⟩

theorem touchOf_series (h : handleEvent p rx ev tags = some (.ok p')) (ht : touchOf p rx ev tags = some t) :
    (∃ s, p'.reg.series? t.name t.labels = some s) ∧ p'.reg.type? t.name = some t.ty := by
  obtain ⟨c, pl, reg, hta, hg, rfl, he⟩ := touchOf_eq_some ht
  cases he.symm.trans h
  exact ⟨(applied_addressed hta hg).imp fun _ => And.left, applied_type_self hg⟩

/-- the induction step of `fold_series`: a start of the fold before the step is taken to a start of the fold after it -/
theorem touchOf_value (hw : RegWF p.reg) (h : handleEvent p rx ev tags = some (.ok p')) (ht : touchOf p rx ev tags = some t) :
    ∃ v, p'.reg.vec? t.name (t.labels.map (·.1)) = some v ∧
      ∀ start : Series V, start.sameValue ((p.reg.series? t.name t.labels).getD (zeroSeries t.ty v t.labels)) →
        ∃ s1, p'.reg.series? t.name t.labels = some s1 ∧ (t.upd v start).sameValue s1 := by
  have hu : UpdValue t.upd := (touchOf_identity ht).2.1 ▸ evUpd_value p rx ev
  obtain ⟨c, pl, reg, hta, hg, rfl, he⟩ := touchOf_eq_some ht
  cases he.symm.trans h
  refine ⟨_, applied_vec hg (Or.inr hw), fun start hstart =>
    ⟨_, applied_series_self hta hg (Or.inr hw), hu _ _ _ (Series.sameValue_trans hstart ?_)⟩⟩
  -- the refreshed series has the value of the old one, or of the zero series
  unfold Reg.refreshed
  cases p.reg.series? pl.2.1.name pl.2.1.labels <;> exact ⟨rfl, rfl, rfl, rfl⟩

theorem touchOf_vec (hw : RegWF p.reg) (h : handleEvent p rx ev tags = some (.ok p')) (ht : touchOf p rx ev tags = some t) :
    (∀ v, p.reg.vec? t.name (t.labels.map (·.1)) = some v → p'.reg.vec? t.name (t.labels.map (·.1)) = some v) ∧
    (p.reg.vec? t.name (t.labels.map (·.1)) = none →
      ∃ v, p'.reg.vec? t.name (t.labels.map (·.1)) = some v ∧ v.names = t.labels.map (·.1) ∧
        v.help = (p.reg.firstHelp? t.name).getD (evHelp p rx ev) ∧
        (t.ty = .histogram → v.bounds = evBounds p rx ev)) := by
  refine ⟨fun v hv => (handleEvent_grows h).vec hv, fun hnone => ?_⟩
  obtain ⟨c, pl, reg, hta, hg, rfl, he⟩ := touchOf_eq_some ht
  cases he.symm.trans h
  obtain ⟨_, _, nm, _, rfl⟩ := evTarget_spec hta
  refine ⟨_, applied_vec hg (Or.inr hw), vecFor_names .., ?_⟩
  rw [Reg.vecFor, existingVec_eq_vec? hg, hnone]
  have hu := evPlan_spec p rx ev nm (evLabels p rx ev tags).sorted
  exact ⟨congrArg (Option.getD _) (evTarget_args hta).2.2, fun hty => hu.2.2.trans (if_pos (hu.1.symm.trans hty))⟩

end

theorem runEvs_nil (rx : Rx) (p : Pipe V) : runEvs rx p [] = some (.ok p) := rfl

section
variable {rx : Rx} {p p' p1 : Pipe V} {ev : Ev V} {tags : Labels}

theorem runEvs_cons_ok {rest : List (Ev V × Labels)} (h : runEvs rx p ((ev, tags) :: rest) = some (.ok p')) :
    ∃ p1, handleEvent p rx ev tags = some (.ok p1) ∧ runEvs rx p1 rest = some (.ok p') := by
  rw [runEvs] at h
  split at h
  · rename_i p1 h1; exact ⟨p1, h1, h⟩
  · rename_i hno; exact absurd h (hno p')

theorem runEvs_grows {evs : List (Ev V × Labels)} (h : runEvs rx p evs = some (.ok p')) : p.reg.Grows p'.reg :=
  runEvs_inv (J := fun q => p.reg.Grows q.reg) (fun hq hs => hq.trans (handleEvent_grows hs))
    (Reg.Grows.refl _) h

theorem trace_cons (rest : List (Ev V × Labels)) (h1 : handleEvent p rx ev tags = some (.ok p1)) :
    trace rx p ((ev, tags) :: rest) = ((touchOf p rx ev tags).map (ev, ·)).toList ++ trace rx p1 rest := by
  simp only [trace, h1]
  cases touchOf p rx ev tags <;> rfl

theorem touches_cons (rest : List (Ev V × Labels)) (h1 : handleEvent p rx ev tags = some (.ok p1)) :
    touches rx p ((ev, tags) :: rest) = (touchOf p rx ev tags).toList ++ touches rx p1 rest := by
  unfold touches
  rw [trace_cons rest h1, List.map_append]
  cases touchOf p rx ev tags <;> rfl

theorem ownUpds_cons (name : Bytes) (L : Labels) (t : Touch V) (ts : List (Touch V)) :
    ownUpds name L (t :: ts) = if t.addresses name L then t.upd :: ownUpds name L ts else ownUpds name L ts := by
  unfold ownUpds
  rw [List.filter_cons]
  split <;> rfl

end

theorem specSeries_append (s : Series V) (vec : VecM V) (us ws : List (VecM V → Series V → Series V)) :
    specSeries s vec (us ++ ws) = specSeries (specSeries s vec us) vec ws := by
  unfold specSeries; rw [List.foldl_append]

section
variable {rx : Rx} {p p' : Pipe V} {evs : List (Ev V × Labels)}

theorem mem_trace (h : runEvs rx p evs = some (.ok p')) : ∀ et ∈ trace rx p evs,
    ∃ q q' tags, q.mapper = p.mapper ∧ handleEvent q rx et.1 tags = some (.ok q') ∧
      touchOf q rx et.1 tags = some et.2 ∧ q'.reg.Grows p'.reg := by
  intro et het
  induction evs generalizing p with
  | nil => cases het
  | cons e rest ih =>
    obtain ⟨ev, tags⟩ := e
    obtain ⟨p1, h1, h2⟩ := runEvs_cons_ok h
    rw [trace_cons rest h1, List.mem_append, Option.mem_toList, Option.map_eq_some_iff] at het
    rcases het with ⟨t, ht, rfl⟩ | het
    · exact ⟨p, p1, tags, rfl, h1, ht, runEvs_grows h2⟩
    · obtain ⟨q, q', tags', hm, hq⟩ := ih h2 het
      exact ⟨q, q', tags', hm.trans (handleEvent_keeps h1).1, hq⟩

theorem trace_spec (h : runEvs rx p evs = some (.ok p')) :
    ∀ et ∈ trace rx p evs, et.2.ty = evType p rx et.1 ∧ et.2.upd = evUpd p rx et.1 := by
  intro et het
  obtain ⟨q, _, _, hm, _, ht, _⟩ := mem_trace h et het
  rw [← (ev_congr hm rx et.1).2.1, ← (ev_congr hm rx et.1).2.2]
  exact ⟨(touchOf_identity ht).1, (touchOf_identity ht).2.1⟩

theorem trace_nonneg (h : runEvs rx p evs = some (.ok p')) :
    ∀ et ∈ trace rx p evs, et.1.kind = .counter → NonNeg (evValue p rx et.1) := by
  intro et het hk
  obtain ⟨q, _, _, hm, _, ht, _⟩ := mem_trace h et het
  obtain ⟨_, _, _, hta, _⟩ := touchOf_eq_some ht
  rw [← (ev_congr hm rx et.1).1]
  exact ((evTarget_counter hta).2 hk).1

theorem touched_exists (h : runEvs rx p evs = some (.ok p')) :
    ∀ t ∈ touches rx p evs, (∃ s, p'.reg.series? t.name t.labels = some s) ∧ p'.reg.type? t.name = some t.ty := by
  intro t ht
  obtain ⟨et, het, rfl⟩ := List.mem_map.mp ht
  obtain ⟨_, _, _, _, hq, hto, hg⟩ := mem_trace h et het
  exact ⟨(touchOf_series hq hto).1.elim fun _ => hg.series, hg.type (touchOf_series hq hto).2⟩

/-- type and vector are read at the end of the history: the registry only grows, so they are those of every step that
    touched the series -/
theorem fold_series (hw : RegWF p.reg) (h : runEvs rx p evs = some (.ok p')) {name : Bytes} {L : Labels} {s : Series V}
    (hs : p'.reg.series? name L = some s) :
    ∃ ty vec, p'.reg.type? name = some ty ∧ p'.reg.vec? name (L.map (·.1)) = some vec ∧
      ∀ start : Series V, start.sameValue ((p.reg.series? name L).getD (zeroSeries ty vec L)) →
        s.sameValue (specSeries start vec (ownUpds name L (touches rx p evs))) := by
  induction evs generalizing p with
  | nil =>
    cases (runEvs_nil rx p).symm.trans h
    obtain ⟨ty, hty⟩ := Reg.type?_of_series? hs
    obtain ⟨vec, hvec⟩ := hw.vec?_of_series? hs
    refine ⟨ty, vec, hty, hvec, fun start hstart => ?_⟩
    rw [hs] at hstart
    exact Series.sameValue_symm hstart
  | cons e rest ih =>
    obtain ⟨ev, tags⟩ := e
    obtain ⟨p1, h1, h2⟩ := runEvs_cons_ok h
    obtain ⟨ty, vec, hty, hvec, hfold⟩ := ih (RegWF_handleEvent hw h1) h2
    refine ⟨ty, vec, hty, hvec, fun start hstart => ?_⟩
    rw [touches_cons rest h1]
    cases ht : touchOf p rx ev tags with
    | none =>
      rw [Option.toList_none, List.nil_append]
      apply hfold
      rw [(touchOf_none_reg h1 ht).1]
      exact hstart
    | some t =>
      rw [Option.toList_some, List.singleton_append, ownUpds_cons]
      by_cases ha : t.addresses name L = true
      · rw [if_pos ha]
        obtain ⟨rfl, rfl⟩ := (addresses_iff t _ _).mp ha
        obtain ⟨v, hv, hstep⟩ := touchOf_value hw h1 ht
        have hg := runEvs_grows h2
        cases (hg.vec hv).symm.trans hvec
        cases (hg.type (touchOf_series h1 ht).2).symm.trans hty
        obtain ⟨s1, hs1, hv1⟩ := hstep start hstart
        exact hfold (t.upd vec start) (by rw [hs1]; exact hv1)
      · rw [if_neg ha]
        apply hfold
        rw [touchOf_frame h1 ht (mt (addresses_iff t name L).mpr ha)]
        exact hstart

end

/-! ### the history formats of the other properties are instances -/

def lineEvs (ls : List (Labels × List (Ev V))) : List (Ev V × Labels) :=
  ls.flatMap fun l => l.2.map fun e => (e, l.1)

theorem runEvs_append (rx : Rx) (es fs : List (Ev V × Labels)) :
    ∀ p : Pipe V, runEvs rx p (es ++ fs) =
      match runEvs rx p es with
      | some (.ok p') => runEvs rx p' fs
      | other => other := by
  induction es with
  | nil => intro p; rfl
  | cons e es ih =>
    intro p
    simp only [List.cons_append, runEvs]
    rcases handleEvent p rx e.1 e.2 with _ | _ | p1
    · rfl
    · rfl
    · exact ih p1

theorem runOps_lines_eq_runEvs (rx : Rx) (ls : List (Labels × List (Ev V))) :
    ∀ p : Pipe V, runOps rx p (ls.map fun l => PipeOp.line l.1 l.2) = runEvs rx p (lineEvs ls) := by
  induction ls with
  | nil => intro p; rfl
  | cons l ls ih =>
    intro p
    simp only [List.map_cons, runOps, lineEvs, List.flatMap_cons]
    rw [runEvs_append, ← handleEvents_eq_runEvs]
    rcases handleEvents p rx l.1 l.2 with _ | _ | p1
    · rfl
    · rfl
    · exact ih p1

end SE
