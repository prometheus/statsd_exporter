import SE.Model.Line
import SE.Proofs.Bytes
/-
The label map as a function of the text: every tag loop (`parseTag`, `parseTagPieces`, `parseDogStatsDTags`) is a list
of `Labels.set` assignments and an error count, both fixed by the bytes it reads (`parseTagPieces_eq`). Applying the
same assignments twice is the same as applying them once (`applyKVs_idem`): in an extended-aggregation line every
rebuilt sample re-parses the same tag section into the shared map (C10).
-/
namespace SE

theorem Labels.has_nil (k : Bytes) : Labels.has [] k = false := rfl

theorem Labels.has_cons (k' v' : Bytes) (rest : Labels) (k : Bytes) :
    Labels.has ((k', v') :: rest) k = (k' == k || Labels.has rest k) := by
  simp only [Labels.has, Labels.get?]
  by_cases h : (k' == k) = true <;> simp [h]

theorem Labels.set_cons (k' v' : Bytes) (rest : Labels) (k v : Bytes) :
    Labels.set ((k', v') :: rest) k v = if k' = k then (k', v) :: rest else (k', v') :: rest.set k v := by
  simp only [Labels.set, beq_iff_eq]

theorem Labels.get?_cons (k' v' : Bytes) (rest : Labels) (k : Bytes) :
    Labels.get? ((k', v') :: rest) k = if k' = k then some v' else rest.get? k := by
  simp only [Labels.get?, beq_iff_eq]

theorem Labels.get?_set (L : Labels) (k v k1 : Bytes) :
    (L.set k v).get? k1 = if k = k1 then some v else L.get? k1 := by
  induction L with
  | nil => exact Labels.get?_cons k v [] k1
  | cons kv rest ih =>
    rw [Labels.set_cons]
    by_cases h : kv.1 = k
    · rw [if_pos h, Labels.get?_cons, Labels.get?_cons, h]
      split <;> rfl
    · rw [if_neg h, Labels.get?_cons, Labels.get?_cons, ih]
      by_cases h1 : k = k1
      · rw [if_pos h1, if_neg (h1 ▸ h), if_pos h1]
      · rw [if_neg h1, if_neg h1]

theorem Labels.has_set (L : Labels) (k v k1 : Bytes) : (L.set k v).has k1 = (k == k1 || L.has k1) := by
  rw [Labels.has, Labels.get?_set]
  by_cases h : k = k1
  · rw [if_pos h, beq_iff_eq.mpr h]; rfl
  · rw [if_neg h, beq_false_of_ne h]; rfl

theorem Labels.set_set_same (L : Labels) (k v v' : Bytes) : (L.set k v).set k v' = L.set k v' := by
  induction L with
  | nil => simp [Labels.set]
  | cons kv rest ih =>
    obtain ⟨k', w⟩ := kv
    by_cases h : (k' == k) = true
    · simp [Labels.set, h]
    · simp [Labels.set, h, ih]

/-- an assignment to a key that is present changes no position, so it commutes with any other -/
theorem Labels.set_comm (L : Labels) (k v k1 v1 : Bytes) (hne : k ≠ k1) (h1 : L.has k1 = true) :
    (L.set k v).set k1 v1 = (L.set k1 v1).set k v := by
  induction L with
  | nil => cases h1
  | cons kv rest ih =>
    obtain ⟨k', w⟩ := kv
    by_cases h : k' = k
    · subst h; simp [Labels.set, hne]
    · by_cases h' : k' = k1
      · subst h'; simp [Labels.set, h]
      · simp only [Labels.has_cons, beq_iff_eq, h', false_or, Bool.or_eq_true] at h1
        simp [Labels.set, h, h', ih h1]

def applyKVs (L : Labels) (kvs : List (Bytes × Bytes)) : Labels :=
  kvs.foldl (fun l kv => l.set kv.1 kv.2) L

theorem applyKVs_nil (L : Labels) : applyKVs L [] = L := rfl
theorem applyKVs_cons (L : Labels) (kv : Bytes × Bytes) (t : List (Bytes × Bytes)) :
    applyKVs L (kv :: t) = applyKVs (L.set kv.1 kv.2) t := rfl
theorem applyKVs_append (L : Labels) (a b : List (Bytes × Bytes)) :
    applyKVs L (a ++ b) = applyKVs (applyKVs L a) b := List.foldl_append

theorem has_applyKVs_of_has (kvs : List (Bytes × Bytes)) (L : Labels) (k : Bytes) (h : L.has k = true) :
    (applyKVs L kvs).has k = true :=
  List.foldlRecOn (motive := fun M : Labels => M.has k = true) kvs _ h fun M hM _ _ => by
    rw [Labels.has_set, hM, Bool.or_true]

theorem has_applyKVs_mem (L : Labels) {kvs : List (Bytes × Bytes)} {kv : Bytes × Bytes} (h : kv ∈ kvs) :
    (applyKVs L kvs).has kv.1 = true := by
  obtain ⟨a, b, rfl⟩ := List.append_of_mem h
  rw [applyKVs_append, applyKVs_cons]
  exact has_applyKVs_of_has b _ _ (by rw [Labels.has_set, beq_self_eq_true, Bool.true_or])

theorem applyKVs_set_absorb (a : List (Bytes × Bytes)) (M : Labels) (k v : Bytes)
    (h : ∀ kv ∈ a, M.has kv.1 = true) : (applyKVs (M.set k v) a).set k v = (applyKVs M a).set k v := by
  induction a generalizing M with
  | nil => exact Labels.set_set_same ..
  | cons x t ih =>
    obtain ⟨hx, ht⟩ := List.forall_mem_cons.mp h
    rw [applyKVs_cons, applyKVs_cons]
    by_cases hk : k = x.1
    · rw [hk, Labels.set_set_same]
    · rw [Labels.set_comm M k v x.1 x.2 hk hx, ih _ fun kv hkv => by rw [Labels.has_set, ht kv hkv, Bool.or_true]]

theorem applyKVs_idem (L : Labels) (kvs : List (Bytes × Bytes)) :
    applyKVs (applyKVs L kvs) kvs = applyKVs L kvs := by
  -- `applyKVs` is a `foldl`, so the assignment that the second pass absorbs is the last of the list:
  -- induction from that end, on the reversed list
  rw [← kvs.reverse_reverse]
  induction kvs.reverse generalizing L with
  | nil => rfl
  | cons x t ih =>
    rw [List.reverse_cons, applyKVs_append, applyKVs_append]
    simp only [applyKVs_cons, applyKVs_nil]
    rw [applyKVs_set_absorb t.reverse (applyKVs L t.reverse) x.1 x.2 fun _ => has_applyKVs_mem L, ih]

/-- the assignment a tag stands for, if it is well-formed -/
def tagKV (sep : UInt8) (tag : Bytes) : List (Bytes × Bytes) :=
  if tag.isEmpty then [] else
  match cut sep tag with
  | none => []
  | some (k, v) => if k.isEmpty || v.isEmpty then [] else [(specEscape k, v)]

theorem parseTag_eq (tag : Bytes) (sep : UInt8) (L : Labels) :
    parseTag tag sep L = (applyKVs L (tagKV sep tag), if (tagKV sep tag).isEmpty then 1 else 0) := by
  by_cases h0 : tag.isEmpty = true
  · simp [parseTag, tagKV, h0, applyKVs_nil]
  · rcases hc : cut sep tag with _ | ⟨k, v⟩
    · simp [parseTag, tagKV, h0, hc, applyKVs_nil]
    · by_cases h1 : (k.isEmpty || v.isEmpty) = true <;> simp [parseTag, tagKV, h0, hc, h1, applyKVs]

/-- the pieces of a comma split that are tags: all but an empty last one -/
def tagsOf : List Bytes → List Bytes
  | [] => []
  | [last] => if last.isEmpty then [] else [last]
  | p :: ps => p :: tagsOf ps

theorem tagsOf_append {xs : List Bytes} {l : Bytes} (hl : l ≠ []) : tagsOf (xs ++ [l]) = xs ++ [l] := by
  induction xs with
  | nil => cases l with
    | nil => exact absurd rfl hl
    | cons => rfl
  -- in either case `xs ++ [l]` is visibly a cons, so `tagsOf` keeps `x` and goes on
  | cons x xs ih => cases xs <;> exact congrArg (x :: ·) ih

theorem parseTagPieces_eq (trim : Bytes → Bytes) (sep : UInt8) (ps : List Bytes) : ∀ (L : Labels) (e : Nat),
    parseTagPieces trim sep ps L e =
      (applyKVs L ((tagsOf ps).flatMap fun p => tagKV sep (trim p)),
        e + (tagsOf ps).countP fun p => (tagKV sep (trim p)).isEmpty) := by
  induction ps with
  | nil => intro L e; rfl
  | cons p rest ih =>
    intro L e
    cases rest with
    | nil =>
      simp only [parseTagPieces, tagsOf]
      split
      · rfl
      · rw [parseTag_eq]; simp [List.countP_cons]
    | cons q qs =>
      simp only [parseTagPieces, tagsOf]
      rw [parseTag_eq, ih]
      simp only [List.flatMap_cons, applyKVs_append, List.countP_cons]
      congr 1
      omega

/-- the assignments of a `#` section -/
def dogKVs (fl : ParserFlags) (r : Bytes) : List (Bytes × Bytes) :=
  if fl.dogstatsd then (tagsOf (splitOn cComma r)).flatMap fun p => tagKV cColon (trimLeftHash p) else []

theorem parseDogStatsDTags_eq (fl : ParserFlags) (r : Bytes) (L : Labels) :
    parseDogStatsDTags fl r L = (applyKVs L (dogKVs fl r), (parseDogStatsDTags fl r []).2) := by
  unfold parseDogStatsDTags dogKVs
  split
  · rw [parseTagPieces_eq, parseTagPieces_eq]
  · rfl

end SE
