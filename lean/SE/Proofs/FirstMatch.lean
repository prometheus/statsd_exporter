import SE.Spec.Mapping
/-
Facts about the C04 specification itself (`firstGlob`, `firstRegex`), on the level of
"first hit of an index-aware predicate in `l.zipIdx`": inserting an element that is no hit shifts the answer
(`find?_zipIdx_insert`), what stands after the hit does not matter (`find?_zipIdx_take`). The irrelevance theorems of
SE/Props/C04.lean are these two applied to `firstGlob_eq_find` and `firstRegex_eq_find`.
-/
namespace SE
variable {V : Type}

theorem find?_congr_mem {α} {p q : α → Bool} {l : List α} (h : ∀ x ∈ l, p x = q x) :
    l.find? p = l.find? q := by
  rw [← List.head?_filter, ← List.head?_filter, List.filter_congr h]

/-- index of an old rule after a new rule was inserted at position `k` -/
def shiftAt (k i : Nat) : Nat := if i < k then i else i + 1

/-- index of a remaining rule after the rule at position `k` was erased -/
def unshiftAt (k i : Nat) : Nat := if i ≤ k then i else i - 1

theorem unshiftAt_shiftAt (k i : Nat) : unshiftAt k (shiftAt k i) = i := by
  unfold unshiftAt shiftAt
  by_cases h : i < k
  · rw [if_pos h, if_pos (Nat.le_of_lt h)]
  · rw [if_neg h, if_neg (by omega)]
    rfl

theorem find?_zipIdx_insert {α} (pre post : List α) (r : α) {P P' : α × Nat → Bool}
    (hr : P' (r, pre.length) = false)
    (hlt : ∀ x i, i < pre.length → P' (x, i) = P (x, i))
    (hge : ∀ x i, pre.length ≤ i → i < pre.length + post.length → P' (x, i + 1) = P (x, i)) :
    ((pre ++ r :: post).zipIdx.find? P').map (·.2) =
      (((pre ++ post).zipIdx.find? P).map (·.2)).map (shiftAt pre.length) := by
  -- the new entries other than `r` are the old entries, re-indexed
  have hσ : pre.zipIdx ++ post.zipIdx (pre.length + 1) =
      (pre ++ post).zipIdx.map fun x => (x.1, shiftAt pre.length x.2) := by
    rw [List.zipIdx_append, List.map_append, List.zipIdx_succ, Nat.zero_add]
    congr 1
    · conv => lhs; rw [← List.map_id pre.zipIdx]
      refine List.map_congr_left fun x hx => ?_
      rw [shiftAt, if_pos (show x.2 < pre.length from List.snd_lt_of_mem_zipIdx hx)]
      rfl
    · refine List.map_congr_left fun x hx => ?_
      rw [shiftAt, if_neg (Nat.not_lt.mpr (List.le_snd_of_mem_zipIdx hx))]
  rw [List.zipIdx_append, List.zipIdx_cons, List.find?_append, List.find?_cons, Nat.zero_add, hr,
    ← List.find?_append, hσ, List.find?_map, Option.map_map, Option.map_map]
  refine congrArg (Option.map _) (find?_congr_mem fun x hx => ?_)
  have hx' : x.2 < pre.length + post.length := List.length_append ▸ List.snd_lt_of_mem_zipIdx hx
  show P' (x.1, shiftAt pre.length x.2) = P x
  unfold shiftAt
  by_cases h : x.2 < pre.length
  · rw [if_pos h]
    exact hlt x.1 x.2 h
  · rw [if_neg h]
    exact hge x.1 x.2 (Nat.not_lt.mp h) hx'

theorem find?_zipIdx_some {α} {l : List α} {P : α × Nat → Bool} {i : Nat}
    (h : (l.zipIdx.find? P).map (·.2) = some i) :
    ∃ x, l.zipIdx.find? P = some (x, i) ∧ l[i]? = some x ∧ P (x, i) = true := by
  obtain ⟨⟨x, j⟩, hf, hj⟩ := Option.map_eq_some_iff.mp h
  cases hj
  exact ⟨x, hf, List.mem_zipIdx_iff_getElem?.mp (List.mem_of_find?_eq_some hf), List.find?_some hf⟩

theorem find?_zipIdx_take {α} (l l' : List α) (P P' : α × Nat → Bool) (i : Nat)
    (h : (l.zipIdx.find? P).map (·.2) = some i) (htake : l'.take (i + 1) = l.take (i + 1))
    (hP : ∀ y j, j ≤ i → P' (y, j) = P (y, j)) :
    (l'.zipIdx.find? P').map (·.2) = some i := by
  obtain ⟨x, hf, hx, hPx⟩ := find?_zipIdx_some h
  have hpre : ∀ m : List α, (m.take (i + 1)).zipIdx <+: m.zipIdx := fun m => by
    conv => rhs; rw [← List.take_append_drop (i + 1) m, List.zipIdx_append]
    exact List.prefix_append _ _
  -- the common prefix contains the hit `(x, i)`, so the first hit of `l` is its first hit
  have hT : (l.take (i + 1)).zipIdx.find? P = some (x, i) := by
    have hmem : (x, i) ∈ (l.take (i + 1)).zipIdx :=
      List.mem_zipIdx_iff_getElem?.mpr (by rw [List.getElem?_take_of_lt (Nat.lt_succ_self i)]; exact hx)
    obtain ⟨y, hy⟩ := Option.isSome_iff_exists.mp (List.find?_isSome.mpr ⟨_, hmem, hPx⟩)
    rw [hy, ← hf]
    exact ((hpre l).find?_eq_some hy).symm
  have hcongr : (l.take (i + 1)).zipIdx.find? P' = (l.take (i + 1)).zipIdx.find? P :=
    find?_congr_mem fun y hy => hP y.1 y.2 (by
      have := List.snd_lt_of_mem_zipIdx hy
      rw [List.length_take] at this
      omega)
  rw [← hcongr, ← htake] at hT
  exact congrArg (Option.map _) ((hpre l').find?_eq_some hT)

theorem firstGlob_eq_find (cfg : Config V) (name : Bytes) (ty : Nat) :
    firstGlob cfg name ty =
      (cfg.rules.zipIdx.find? (fun x : Rule V × Nat => ruleMatchesGlob x.1 (splitOn 46 name) ty)).map (·.2) := rfl

def regexHit (rx : Rx) (name : Bytes) (ty : Nat) (x : Rule V × Nat) : Bool :=
  x.1.matchType == .regex && (rx x.2 name).isSome && typeOk x.1.matchMetricType ty

theorem firstRegex_eq_find (cfg : Config V) (rx : Rx) (name : Bytes) (ty : Nat) :
    firstRegex cfg rx name ty = (cfg.rules.zipIdx.find? (regexHit rx name ty)).map (·.2) := rfl

end SE
