/-
Small list lemmas that core Lean lacks: `zipIdx` against `filter` and its index order, `findSome?` against `find?`
(glob bridge), lookup in a keyed list with distinct keys (registry, cache), and `set` read position by position
(the goroutine lists of Queue and Sync).
-/
namespace SE.ListLemmas

theorem filter_zipIdx_fst {α} (P : α → Bool) (l : List α) (n : Nat) :
    ((l.zipIdx n).filter (fun x => P x.1)).map (·.1) = l.filter P := by
  conv => rhs; rw [← List.zipIdx_map_fst n l, List.filter_map]
  rfl

theorem zipIdx_pairwise {α} (l : List α) (n : Nat) :
    (l.zipIdx n).Pairwise (fun a b => a.2 < b.2) := by
  rw [← List.pairwise_map (f := Prod.snd) (R := (· < ·)), List.zipIdx_map_snd]
  exact List.pairwise_lt_range'

theorem findSome?_map_eq_find?_map {α β γ} (f : α → Option β) (p : α → Bool) (g : β → γ) (h : α → γ)
    (l : List α) (hf : ∀ a, (f a).map g = if p a then some (h a) else none) :
    (l.findSome? f).map g = (l.find? p).map h := by
  induction l with
  | nil => rfl
  | cons a as ih =>
    have := hf a
    rw [List.findSome?_cons, List.find?_cons]
    cases hp : p a <;> rw [hp] at this
    · simp [Option.map_eq_none_iff.mp this, ih]
    · obtain ⟨b, hb, hg⟩ := Option.map_eq_some_iff.mp this
      simp [hb, hg]

theorem find?_key_of_mem {α κ : Type} [BEq κ] [LawfulBEq κ] (key : α → κ) (l : List α)
    (h : (l.map key).Nodup) (x : α) (hx : x ∈ l) : l.find? (fun y => key y == key x) = some x := by
  induction l with
  | nil => cases hx
  | cons y t ih =>
    rw [List.map_cons, List.nodup_cons] at h
    rcases List.mem_cons.mp hx with e | hxt
    · subst e; simp
    · have hne : (key y == key x) = false := by
        cases hk : key y == key x with
        | false => rfl
        | true =>
          have : key y = key x := by simpa using hk
          exact absurd (this ▸ List.mem_map_of_mem (f := key) hxt) h.1
      rw [List.find?_cons, hne]
      exact ih h.2 hxt

theorem getElem?_set_cases {α} {l : List α} {i j : Nat} {a x : α}
    (h : (l.set i a)[j]? = some x) : (j = i ∧ x = a) ∨ (j ≠ i ∧ l[j]? = some x) := by
  by_cases hij : i = j
  · rw [hij, List.getElem?_set_self', Option.map_eq_map, Option.map_eq_some_iff] at h
    obtain ⟨_, _, e⟩ := h
    exact .inl ⟨hij.symm, e.symm⟩
  · rw [List.getElem?_set_ne hij] at h
    exact .inr ⟨fun e => hij e.symm, h⟩

end SE.ListLemmas
