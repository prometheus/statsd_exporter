import SE.Proofs.NameRune
/-
The left-to-right scan of a template that `expandSpec`, `regexp.Expand` (`rxExpand`), `refNames` and the glob
formatter's `substRefs` share: at a non-empty text it reads one of four things (`headOf`): a byte that is copied, the
escape `$$`, a well-formed reference, or a reference name with a rune outside the modelled fragment; each scanner
has one equation saying what it does with each (`expandSpec_succ`, `rxExpand_succ`, `refNames_succ`; `substRefs_succ`
in SE/Proofs/GlobTemplate.lean). Then C11, regex side: `rxExpand` against `expandSpec`, which differ only in what a
reference stands for (`rxExpand` knows group 0 and named groups, the specification does not).
-/
namespace SE

inductive Head where
  /-- any byte but `$`, or a `$` that starts no reference (the last byte, or a malformed reference) -/
  | copy
  | esc (rest : Bytes)
  | ref (name rest : Bytes)
  | unmodelled

def headOf (b : UInt8) (rest : Bytes) : Head :=
  if b == cDollar then
    match rest with
    | c :: rest' =>
      if c == cDollar then .esc rest'
      else match rxExtractU rest with
        | none => .unmodelled
        | some none => .copy
        | some (some (name, r)) => .ref name r
    | [] => .copy
  else .copy

theorem headOf_of_ne {b : UInt8} (rest : Bytes) (hb : b ≠ cDollar) : headOf b rest = .copy := by
  unfold headOf; rw [beq_eq_false_iff_ne.mpr hb]; rfl

theorem headOf_cases (b : UInt8) (rest : Bytes) :
    headOf b rest = .copy ∨
    (∃ r, headOf b rest = .esc r ∧ r <:+ rest) ∨
    (∃ name r, headOf b rest = .ref name r ∧ name ≠ [] ∧ r <:+ rest) ∨
    headOf b rest = .unmodelled := by
  unfold headOf
  cases b == cDollar with
  | false => exact .inl rfl
  | true =>
    cases rest with
    | nil => exact .inl rfl
    | cons c rest' =>
      dsimp only
      cases c == cDollar with
      | true => exact .inr (.inl ⟨rest', rfl, List.suffix_cons c rest'⟩)
      | false =>
        cases hx : rxExtractU (c :: rest') with
        | none => exact .inr (.inr (.inr rfl))
        | some o => cases o with
          | none => exact .inl rfl
          | some nr => exact .inr (.inr (.inl ⟨nr.1, nr.2, rfl, rxExtractU_some hx⟩))

/-- The shape all four scanners have at `b :: rest`, as a `match` on what the scan reads there. `mal` is what the
    scanner does with a `$` that starts a malformed reference, `nil` with a `$` at the end: it copies them. -/
theorem scan_eq_headOf {α : Type} (b : UInt8) (rest : Bytes) {copy mal nil unmodelled : α} {esc : Bytes → α}
    {ref : Bytes → Bytes → α} (hmal : b = cDollar → mal = copy) (hnil : b = cDollar → rest = [] → nil = copy) :
    (if b == cDollar then
      match (generalizing := false) rest with
      | c :: rest' =>
        if c == cDollar then esc rest'
        else match rxExtractU rest with
          | none => unmodelled
          | some none => mal
          | some (some (name, r)) => ref name r
      | [] => nil
    else copy) = match headOf b rest with
      | .copy => copy
      | .esc r => esc r
      | .ref name r => ref name r
      | .unmodelled => unmodelled := by
  unfold headOf
  cases hb : (b == cDollar) with
  | false => rfl
  | true =>
    have hb := beq_iff_eq.mp hb
    cases rest with
    | nil => exact hnil hb rfl
    | cons c rest' =>
      dsimp only
      cases (c == cDollar) with
      | true => rfl
      | false =>
        cases rxExtractU (c :: rest') with
        | none => rfl
        | some o => cases o with
          | none => exact hmal hb
          | some nr => rfl

/-- what the specification puts for a well-formed reference `name` -/
def specSub (caps : List Bytes) (name : Bytes) : Bytes :=
  match rxNum name with
  | some n => if n ≥ 1 then caps.getD (n - 1) [] else []
  | none => []

/-- what `regexp.Expand` puts for a well-formed reference `name` -/
def rxSub (m : RxMatch) (name : Bytes) : Bytes :=
  match rxNum name with
  | some n => match m[n]? with
    | some (_, some t) => t
    | _ => []
  | none => match m.find? (fun g => g.1 == name && g.2.isSome) with
    | some (_, some t) => t
    | _ => []

theorem expandSpec_nil (caps : List Bytes) (fuel : Nat) : expandSpec caps fuel [] = some [] := by
  cases fuel <;> rfl

theorem rxExpand_nil (m : RxMatch) (fuel : Nat) : rxExpand m fuel [] = some [] := by
  cases fuel <;> rfl

theorem refNames_nil (fuel : Nat) : refNames fuel [] = [] := by
  cases fuel <;> rfl

theorem expandSpec_succ (caps : List Bytes) (fuel : Nat) (b : UInt8) (rest : Bytes) :
    expandSpec caps (fuel + 1) (b :: rest) = match headOf b rest with
      | .copy => (expandSpec caps fuel rest).map (b :: ·)
      | .esc r => (expandSpec caps fuel r).map (cDollar :: ·)
      | .ref name r => (expandSpec caps fuel r).map (specSub caps name ++ ·)
      | .unmodelled => none := by
  conv => lhs; unfold expandSpec
  exact scan_eq_headOf b rest (fun h => by rw [h]) (fun h h' => by rw [h, h', expandSpec_nil]; rfl)

theorem rxExpand_succ (m : RxMatch) (fuel : Nat) (b : UInt8) (rest : Bytes) :
    rxExpand m (fuel + 1) (b :: rest) = match headOf b rest with
      | .copy => (rxExpand m fuel rest).map (b :: ·)
      | .esc r => (rxExpand m fuel r).map (cDollar :: ·)
      | .ref name r => (rxExpand m fuel r).map (rxSub m name ++ ·)
      | .unmodelled => none := by
  conv => lhs; unfold rxExpand
  exact scan_eq_headOf b rest (fun h => by rw [h]) (fun h h' => by rw [h, h', rxExpand_nil]; rfl)

theorem refNames_succ (fuel : Nat) (b : UInt8) (rest : Bytes) :
    refNames (fuel + 1) (b :: rest) = match headOf b rest with
      | .copy => refNames fuel rest
      | .esc r => refNames fuel r
      | .ref name r => name :: refNames fuel r
      | .unmodelled => [] := by
  conv => lhs; unfold refNames
  exact scan_eq_headOf b rest (fun _ => rfl) (fun _ h' => by rw [h', refNames_nil])

/-- what a reference name must satisfy for `rxExpand m` to agree with `expandSpec` on it:
    a numeric name is not `0` (group 0 = the whole match is outside the specification), a
    non-numeric name is not the name of a participating group of `m` -/
def refGood (m : RxMatch) (name : Bytes) : Prop :=
  match rxNum name with
  | some n => n ≠ 0
  | none => m.find? (fun g => g.1 == name && g.2.isSome) = none

/-- the captures of a regex match as `expandSpec` numbers them: groups 1.., a group that did not
    participate counts as empty -/
def capsOf (m : RxMatch) : List Bytes := (m.drop 1).map (·.2.getD [])

theorem capsOf_length (m : RxMatch) : (capsOf m).length = m.length - 1 := by
  simp [capsOf]

theorem capsOf_getD (m : RxMatch) (n : Nat) (hn : n ≠ 0) :
    (capsOf m).getD (n - 1) [] = (match m[n]? with | some (_, some t) => t | _ => []) := by
  unfold capsOf
  rw [List.getD_eq_getElem?_getD, List.getElem?_map, List.getElem?_drop, show 1 + (n - 1) = n by omega]
  cases m[n]? with
  | none => rfl
  | some g =>
    obtain ⟨nm, t⟩ := g
    cases t <;> rfl

theorem rxSub_eq_specSub (m : RxMatch) (name : Bytes) : refGood m name → rxSub m name = specSub (capsOf m) name := by
  unfold refGood rxSub specSub
  cases rxNum name with
  | some n =>
    dsimp only
    intro hg
    rw [if_pos (show n ≥ 1 from Nat.pos_of_ne_zero hg), capsOf_getD m n hg]
  | none =>
    dsimp only
    intro hg
    rw [hg]

/-- an equality of `Option`s: both sides are `none` exactly when the scan meets a name with a rune outside the
    modelled fragment -/
theorem rxExpand_eq_expandSpec (m : RxMatch) :
    ∀ (fuel : Nat) (t : Bytes), (∀ name ∈ refNames fuel t, refGood m name) →
      rxExpand m fuel t = expandSpec (capsOf m) fuel t
  | 0, t, _ => by cases t <;> rfl
  | fuel + 1, [], _ => rfl
  | fuel + 1, b :: rest, h => by
    rw [refNames_succ] at h
    rw [rxExpand_succ, expandSpec_succ]
    rcases headOf_cases b rest with hh | ⟨r, hh, _⟩ | ⟨name, r, hh, _⟩ | hh <;> simp only [hh] at h ⊢
    · rw [rxExpand_eq_expandSpec m fuel rest h]
    · rw [rxExpand_eq_expandSpec m fuel r h]
    · rw [rxExpand_eq_expandSpec m fuel r fun nm hn => h nm (List.mem_cons_of_mem _ hn),
        rxSub_eq_specSub m name (h name (List.mem_cons_self ..))]

theorem mem_refNames_ne_nil : ∀ (fuel : Nat) (t : Bytes), ∀ name ∈ refNames fuel t, name ≠ []
  | 0, t => by cases t <;> nofun
  | fuel + 1, [] => nofun
  | fuel + 1, b :: rest => by
    rw [refNames_succ]
    rcases headOf_cases b rest with hh | ⟨r, hh, _⟩ | ⟨nm, r, hh, hne, _⟩ | hh <;> simp only [hh]
    · exact mem_refNames_ne_nil fuel rest
    · exact mem_refNames_ne_nil fuel r
    · exact List.forall_mem_cons.mpr ⟨hne, mem_refNames_ne_nil fuel r⟩
    · nofun

theorem refGood_of_unnamed (m : RxMatch) (fuel : Nat) (t : Bytes) (hun : ∀ g ∈ m, g.1 = [])
    (h0 : ∀ name ∈ refNames fuel t, rxNum name ≠ some 0) :
    ∀ name ∈ refNames fuel t, refGood m name := by
  intro name hn
  unfold refGood
  cases hk : rxNum name with
  | some k => exact fun e => h0 name hn (by rw [hk, e])
  | none =>
    -- a participating group with this name would have the empty name
    dsimp only
    rw [List.find?_eq_none]
    intro g hg hp
    simp only [Bool.and_eq_true, beq_iff_eq] at hp
    exact mem_refNames_ne_nil fuel t name hn (hp.1 ▸ hun g hg)

theorem expandSpec_no_dollar (caps : List Bytes) :
    ∀ (fuel : Nat) (t : Bytes), cDollar ∉ t → expandSpec caps fuel t = some t
  | 0, t, _ => by cases t <;> rfl
  | fuel + 1, [], _ => rfl
  | fuel + 1, b :: rest, h => by
    obtain ⟨hb, h2⟩ := ne_of_not_mem_cons h
    rw [expandSpec_succ, headOf_of_ne rest hb, expandSpec_no_dollar caps fuel rest h2]; rfl

theorem refNames_no_dollar : ∀ (fuel : Nat) (t : Bytes), cDollar ∉ t → refNames fuel t = []
  | 0, t, _ => by cases t <;> rfl
  | fuel + 1, [], _ => rfl
  | fuel + 1, b :: rest, h => by
    obtain ⟨hb, h2⟩ := ne_of_not_mem_cons h
    rw [refNames_succ, headOf_of_ne rest hb]; exact refNames_no_dollar fuel rest h2

theorem rxExpand_no_dollar (m : RxMatch) (fuel : Nat) (t : Bytes) (h : cDollar ∉ t) : rxExpand m fuel t = some t := by
  rw [rxExpand_eq_expandSpec m fuel t (by rw [refNames_no_dollar fuel t h]; nofun), expandSpec_no_dollar _ fuel t h]

end SE
