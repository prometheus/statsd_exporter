import SE.Model.Sync
import SE.Proofs.Ascii
/-
The access table that /verif/extract regenerates from the current source (`SE.Gen.accessTable`), evaluated once
for everything C20 (SE/Props/C20.lean) says of it.
-/
namespace SE
open SE.Gen

/-- the last two conjuncts are for non-vacuity: the table has rows, and rows that conflict -/
theorem accessTable_checked :
    violations (accRows Gen.accessTable) = [] ∧ (accRows Gen.accessTable).length ≥ 30 ∧
    ((accRows Gen.accessTable).any fun a => (accRows Gen.accessTable).any fun b => conflicting a b) = true := by
  -- The kernel needs some 100 ms for one `String.toList` of a literal, and `isPlainField` asks for it on every
  -- written row: decode byte by byte instead (`asciiChars`; an identifier that is not ASCII falls back to
  -- `String.toList`, so nothing depends on what the table holds). The conjuncts share the evaluation of `accRows`.
  simp only [accRows, writtenFields, rolesOf, isPlainField, exportedOrSpawned, toList_eq_asciiChars]
  decide +kernel

end SE
