import SE.Proofs.Glob
/-
The two selections applied to the backtracking search of one type root: the ordered one (`pick true`, lowest rule
index) is the first rule of the root that matches (`pick_ordered_dfs`), the unordered one (`pick false`, first
reported) is the specification's fold "keep the more specific" over the matching rules (`pick_unordered_dfs`).
The ordered selection and the specification's fold are instances of one fold, `keepBest`; for the unordered one,
`moreSpecific` is a strict order in which `cands` (SE/Proofs/Glob.lean) lists the matching patterns decreasingly.
-/
namespace SE

theorem moreSpecific_cons (a b : Bytes) (as bs : Pat) :
    moreSpecific (a :: as) (b :: bs) =
      if a == starB && b != starB then false
      else if a != starB && b == starB then true
      else moreSpecific as bs := by
  rw [moreSpecific]

theorem moreSpecific_nil_left (b : Pat) : moreSpecific [] b = false := by
  cases b <;> simp [moreSpecific]

theorem moreSpecific_nil_right (a : Pat) : moreSpecific a [] = false := by
  cases a <;> simp [moreSpecific]

theorem moreSpecific_cons_self (c : Bytes) (as bs : Pat) :
    moreSpecific (c :: as) (c :: bs) = moreSpecific as bs := by
  rw [moreSpecific_cons]; cases h : (c == starB) <;> simp [bne, h]

theorem moreSpecific_irrefl (a : Pat) : moreSpecific a a = false := by
  induction a with
  | nil => exact moreSpecific_nil_left []
  | cons x xs ih => rw [moreSpecific_cons_self, ih]

theorem moreSpecific_trans : ∀ (a b c : Pat),
    moreSpecific a b = true → moreSpecific b c = true → moreSpecific a c = true := by
  intro a
  induction a with
  | nil => intro b c h; simp [moreSpecific_nil_left] at h
  | cons x xs ih =>
    intro b c hab hbc
    cases b with
    | nil => simp [moreSpecific_nil_right] at hab
    | cons y ys =>
      cases c with
      | nil => simp [moreSpecific_nil_right] at hbc
      | cons z zs =>
        rw [moreSpecific_cons] at hab hbc ⊢
        -- the first components decide (the goal is `true`, or `hab` or `hbc` is `false`: `simp only` closes these
        -- cases), unless all three are `*` or none is: then the tails are compared
        cases hx : (x == starB) <;> cases hy : (y == starB) <;> cases hz : (z == starB) <;>
          simp only [bne, hx, hy, hz, Bool.not_true, Bool.not_false, Bool.and_true, Bool.and_false,
            Bool.false_eq_true, if_true, if_false] at hab hbc ⊢ <;>
          exact ih _ _ hab hbc

theorem moreSpecific_asymm {a b : Pat} (h : moreSpecific a b = true) : moreSpecific b a = false := by
  cases h' : moreSpecific b a with
  | false => rfl
  | true => rw [← moreSpecific_irrefl a, moreSpecific_trans a b a h h']

theorem cands_sorted : ∀ (fields : List Bytes), (cands fields).Pairwise fun a b => moreSpecific a b = true
  | [] => List.pairwise_singleton _ _
  | f :: rest => by
    have hmap : ∀ c : Bytes, ((cands rest).map (c :: ·)).Pairwise fun a b => moreSpecific a b = true := fun c =>
      List.pairwise_map.mpr ((cands_sorted rest).imp fun h => by rwa [moreSpecific_cons_self])
    rw [cands]
    cases hf : f != starB
    · exact hmap starB
    · rw [if_pos rfl, List.pairwise_append]
      refine ⟨hmap f, hmap starB, fun a ha b hb => ?_⟩
      obtain ⟨a', _, rfl⟩ := List.mem_map.mp ha
      obtain ⟨b', _, rfl⟩ := List.mem_map.mp hb
      rw [moreSpecific_cons, hf]
      simp

/-- both patterns stand in `cands n`, which is sorted -/
theorem moreSpecific_total : ∀ (a b n : Pat), globMatches a n = true → globMatches b n = true →
    moreSpecific a b = false → moreSpecific b a = false → a = b := by
  intro a b n ha hb hab hba
  have := List.Pairwise.forall_of_forall_of_flip
    (R := fun a b => a = b ∨ moreSpecific a b = true ∨ moreSpecific b a = true) (fun _ _ => .inl rfl)
    ((cands_sorted n).imp fun h => .inr (.inl h)) ((cands_sorted n).imp fun h => Or.inr (.inr h))
    (mem_cands.mpr ha) (mem_cands.mpr hb)
  rw [hab, hba] at this
  simpa using this

theorem dfs_head_min {rs : TRules} {name : Pat} {f0 : Found} (h : (dfs rs true [] [] name).head? = some f0) :
    ∃ pat, globMatches pat name = true ∧ result rs pat = some f0.rule ∧ f0.caps = capturesOf pat name ∧
      ∀ r ∈ rs, globMatches r.2 name = true → moreSpecific r.2 pat = false := by
  have hne : name ≠ [] := by rintro rfl; cases h
  rw [dfs_root_bt rs hne, List.head?_filterMap, List.findSome?_eq_some_iff] at h
  obtain ⟨l1, pat, l2, hl, hg, hnone⟩ := h
  obtain ⟨i0, hi0, rfl⟩ := Option.map_eq_some_iff.mp hg
  refine ⟨pat, mem_cands.mp (by rw [hl]; simp), hi0, rfl, ?_⟩
  rintro ⟨i, q⟩ hr hm
  -- `q` stands in `cands name`: not before `pat`, where no pattern owns a final node
  have hmem := mem_cands.mpr hm
  have hs := cands_sorted name
  rw [hl, List.mem_append, List.mem_cons] at hmem
  rw [hl, List.pairwise_append, List.pairwise_cons] at hs
  rcases hmem with h1 | rfl | h2
  · obtain ⟨j, hj⟩ := result_isSome_of_mem hr
    have := hnone q h1
    rw [hj] at this
    cases this
  · exact moreSpecific_irrefl _
  · exact moreSpecific_asymm (hs.2.1.1 q h2)

/-- keep the better of two candidates (`lt c b`: `c` is strictly better than `b`), the earlier one on a tie -/
def keepBest {α} (lt : α → α → Bool) (best : Option α) (c : α) : Option α :=
  match best with
  | none => some c
  | some b => if lt c b then some c else some b

/-- one step of the fold in `mostSpecificGlob`, for an arbitrary candidate type -/
def msStep {α} (pat : α → Pat) (best : Option α) (c : α) : Option α :=
  match best with
  | none => some c
  | some b => if moreSpecific (pat c) (pat b) then some c else some b

theorem msStep_eq {α} (pat : α → Pat) :
    msStep pat = keepBest fun c b => moreSpecific (pat c) (pat b) := by
  funext best c; cases best <;> rfl

theorem pick_ordered_eq (fs : List Found) :
    pick true fs = fs.foldl (keepBest fun f b => decide (f.rule < b.rule)) none := by
  simp only [pick, Bool.not_true, Bool.false_eq_true, if_false]
  congr 1
  funext best f
  cases best with
  | none => rfl
  | some b => simp [keepBest]

theorem pick_unordered (fs : List Found) : pick false fs = fs.head? := by simp [pick]

section keepBest
universe u
variable {α : Type u} (lt : α → α → Bool)

theorem foldl_keepBest_some (l : List α) (b : α) :
    ∃ w, l.foldl (keepBest lt) (some b) = some w ∧ w ∈ b :: l := by
  induction l generalizing b with
  | nil => exact ⟨b, rfl, List.mem_singleton_self b⟩
  | cons c l ih =>
    rw [List.foldl_cons, keepBest]
    cases lt c b
    · obtain ⟨w, h1, h2⟩ := ih b
      exact ⟨w, h1, List.cons_subset_cons b (List.subset_cons_self c l) h2⟩
    · obtain ⟨w, h1, h2⟩ := ih c
      exact ⟨w, h1, List.mem_cons_of_mem b h2⟩

theorem foldl_keepBest_none_iff (l : List α) : l.foldl (keepBest lt) none = none ↔ l = [] := by
  cases l with
  | nil => simp
  | cons c l =>
    obtain ⟨w, h1, _⟩ := foldl_keepBest_some lt l c
    simp [keepBest, h1]

theorem foldl_keepBest_keep (l : List α) (w : α) (h : ∀ b ∈ l, lt b w = false) :
    l.foldl (keepBest lt) (some w) = some w := by
  induction l with
  | nil => rfl
  | cons c l ih =>
    simp only [List.foldl_cons, keepBest, h c (List.mem_cons_self ..), Bool.false_eq_true, if_false]
    exact ih (fun b hb => h b (List.mem_cons_of_mem _ hb))

theorem foldl_keepBest_winner (as bs : List α) (w : α)
    (has : ∀ a ∈ as, lt w a = true) (hbs : ∀ b ∈ bs, lt b w = false) :
    (as ++ w :: bs).foldl (keepBest lt) none = some w := by
  rw [List.foldl_append, List.foldl_cons]
  have h1 : keepBest lt (as.foldl (keepBest lt) none) w = some w := by
    cases as with
    | nil => rfl
    | cons a as =>
      obtain ⟨x, hx, hmem⟩ := foldl_keepBest_some lt as a
      rw [show (a :: as).foldl (keepBest lt) none = some x from hx, keepBest, has x hmem, if_pos rfl]
  rw [h1]; exact foldl_keepBest_keep lt bs w hbs

section strict
variable (hirr : ∀ a, lt a a = false) (htrans : ∀ a b c, lt a b = true → lt b c = true → lt a c = true)
include hirr htrans

theorem foldl_keepBest_min (l seen : List α) (b w : α) (hb : ∀ c ∈ seen, lt c b = false)
    (h : l.foldl (keepBest lt) (some b) = some w) : ∀ c ∈ seen ++ l, lt c w = false := by
  induction l generalizing seen b with
  | nil => cases h; rwa [List.append_nil]
  | cons c l ih =>
    rw [List.foldl_cons, keepBest] at h
    rw [List.append_cons]
    cases hcb : lt c b <;> rw [hcb] at h
    · exact ih _ b (List.forall_mem_append.mpr ⟨hb, List.forall_mem_singleton.mpr hcb⟩) h
    · refine ih _ c (List.forall_mem_append.mpr ⟨fun d hd => ?_, List.forall_mem_singleton.mpr (hirr c)⟩) h
      cases hdc : lt d c with
      | false => rfl
      | true => rw [← hb d hd, htrans d c b hdc hcb]

theorem foldl_keepBest_none_min (l : List α) (w : α) (h : l.foldl (keepBest lt) none = some w) :
    w ∈ l ∧ ∀ c ∈ l, lt c w = false := by
  cases l with
  | nil => cases h
  | cons b l =>
    obtain ⟨w', hw', hmem⟩ := foldl_keepBest_some lt l b
    cases hw'.symm.trans h
    exact ⟨hmem, foldl_keepBest_min lt hirr htrans l [b] b w (List.forall_mem_singleton.mpr (hirr b)) h⟩

end strict
end keepBest

theorem pick_ordered_some {fs : List Found} {b : Found} (h : pick true fs = some b) :
    b ∈ fs ∧ ∀ f ∈ fs, b.rule ≤ f.rule := by
  rw [pick_ordered_eq] at h
  obtain ⟨h1, h2⟩ := foldl_keepBest_none_min _ (by simp)
    (fun a b c h1 h2 => by simp only [decide_eq_true_eq] at h1 h2 ⊢; omega) _ _ h
  exact ⟨h1, fun f hf => by have := h2 f hf; simp only [decide_eq_false_iff_not] at this; omega⟩

theorem pick_ordered_none {fs : List Found} : pick true fs = none ↔ fs = [] := by
  rw [pick_ordered_eq]; exact foldl_keepBest_none_iff _ _

theorem foldl_msStep_none_iff {α} (pat : α → Pat) (l : List α) :
    l.foldl (msStep pat) none = none ↔ l = [] := by
  rw [msStep_eq]; exact foldl_keepBest_none_iff _ l

theorem foldl_msStep_min {α} {pat : α → Pat} {l : List α} {w : α} (h : l.foldl (msStep pat) none = some w) :
    w ∈ l ∧ ∀ c ∈ l, moreSpecific (pat c) (pat w) = false := by
  rw [msStep_eq] at h
  exact foldl_keepBest_none_min (fun c b => moreSpecific (pat c) (pat b)) (fun _ => moreSpecific_irrefl _)
    (fun _ _ _ => moreSpecific_trans _ _ _) l w h

/-- the rule indices of a type root increase along the list, as `toGRules` builds it -/
def Sorted (rs : TRules) : Prop := rs.Pairwise (fun a b => a.1 < b.1)

theorem Sorted.unique {rs : TRules} (hs : Sorted rs) {i : Nat} {a b : Pat}
    (ha : (i, a) ∈ rs) (hb : (i, b) ∈ rs) : a = b :=
  -- of two members of the list one stands before the other, and then their indices differ
  List.Pairwise.forall_of_forall_of_flip (R := fun x y : Nat × Pat => x.1 = y.1 → x.2 = y.2) (fun _ _ _ => rfl)
    (hs.imp fun h e => absurd e (Nat.ne_of_lt h)) (hs.imp fun h e => absurd e (Nat.ne_of_gt h)) ha hb rfl

theorem pick_ordered_dfs (rs : TRules) (hs : Sorted rs) (name : Pat) (hne : name ≠ []) :
    pick true (dfs rs true [] [] name) =
      (rs.filter fun r => globMatches r.2 name).head?.map fun r => ⟨r.1, capturesOf r.2 name⟩ := by
  cases hfind : rs.filter fun r => globMatches r.2 name with
  | nil =>
    rw [(dfs_root_eq_nil hne).mpr hfind]
    rfl
  | cons r l =>
    obtain ⟨i, pat⟩ := r
    obtain ⟨as, bs, hrs, has, hm, _⟩ := List.filter_eq_cons_iff.mp hfind
    have hres : result rs pat = some i :=
      result_eq_some_iff.mpr ⟨as, bs, hrs, fun a ha e => has a ha (e ▸ hm)⟩
    have hb : (⟨i, capturesOf pat name⟩ : Found) ∈ dfs rs true [] [] name :=
      (mem_dfs_root hne).mpr ⟨pat, hm, hres, rfl⟩
    cases hp : pick true (dfs rs true [] [] name) with
    | none => rw [pick_ordered_none.mp hp] at hb; cases hb
    | some w =>
      obtain ⟨hw, hwmin⟩ := pick_ordered_some hp
      -- `w` is owned by a matching rule; none before `(i, pat)` matches, those behind it have a larger index
      obtain ⟨ext, h1, h2, h3⟩ := (mem_dfs_root hne).mp hw
      have hmem := result_some_mem h2
      rw [hrs, List.mem_append, List.mem_cons] at hmem
      rcases hmem with hmem | hmem | hmem
      · exact absurd h1 (has _ hmem)
      · cases hmem
        rw [List.head?_cons, Option.map_some, ← h3]
      · unfold Sorted at hs
        rw [hrs, List.pairwise_append, List.pairwise_cons] at hs
        exact absurd (Nat.lt_of_lt_of_le (hs.2.1.1 _ hmem) (hwmin _ hb)) (Nat.lt_irrefl i)

theorem pick_unordered_dfs (rs : TRules) (name : Pat) (hne : name ≠ []) :
    pick false (dfs rs true [] [] name) =
      ((rs.filter fun r => globMatches r.2 name).foldl (msStep (·.2)) none).map
        fun r => ⟨r.1, capturesOf r.2 name⟩ := by
  rw [pick_unordered]
  cases hh : (dfs rs true [] [] name).head? with
  | none =>
    rw [List.head?_eq_none_iff, dfs_root_eq_nil hne] at hh
    rw [hh]
    rfl
  | some f0 =>
    obtain ⟨pat, hm, hr, hc, hmin⟩ := dfs_head_min hh
    obtain ⟨as, bs, hrs, has⟩ := result_eq_some_iff.mp hr
    subst hrs
    rw [List.filter_append, List.filter_cons, if_pos hm, msStep_eq, foldl_keepBest_winner]
    · rw [Option.map_some, ← hc]
    · intro a ha
      rw [List.mem_filter] at ha
      cases h : moreSpecific pat a.2 with
      | true => rfl
      | false =>
        exact absurd (moreSpecific_total _ _ _ ha.2 hm (hmin a (List.mem_append_left _ ha.1) ha.2) h) (has a ha.1)
    · intro b hb
      rw [List.mem_filter] at hb
      exact hmin b (List.mem_append_right _ (List.mem_cons_of_mem _ hb.1)) hb.2

end SE
