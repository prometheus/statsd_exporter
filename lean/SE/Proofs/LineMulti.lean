import SE.Proofs.Line
/-
Lemmas for C10: the lines of the multi-sample and the extended-aggregation domains (`MultiDom`, `ExtAggDom` of
SE/Spec/Line.lean), the whole line and each single-sample line alike, as sample loops from the state the name
leaves, and what a sample loop has in common with the single-sample runs from the same start state.
-/
namespace SE
variable {V : Type} [NumOps V]

theorem not_mixed {dog : Bool} {L : Labels} (h : dog = false ∨ L = []) : (dog && !L.isEmpty) = false := by
  rcases h with rfl | rfl
  · rfl
  · exact Bool.and_false _

theorem sum_map_add {α : Type} (l : List α) (f : α → Nat) (c : Nat) :
    (l.map fun a => c + f a).sum = l.length * c + (l.map f).sum := by
  induction l with
  | nil => simp
  | cons a l ih => simp only [List.map_cons, List.sum_cons, List.length_cons, Nat.succ_mul, ih]; omega

/-- The samples are `f i` over an index list, and the runs enter as equations, because C10 uses this twice: with `f := id`
    for a multi-sample line and with `f := fun v => v ++ …` for the values of an extended-aggregation sample. The last
    equation: the start state's tag errors `E` are counted once by the loop and once by every single run. -/
theorem foldl_parseSample_vs_singles (fl : ParserFlags) (pf : Pf V) (m : Bytes) (L : Labels) (E : Nat)
    {ι : Type} (f : ι → Bytes) (is : List ι) (whole : ParseOut V) (single : ι → ParseOut V)
    (hw : whole = (is.map f).foldl (parseSample fl pf m) (startSt L E))
    (hs : ∀ i ∈ is, single i = parseSample fl pf m (startSt L E) (f i)) :
    whole.events = (is.map fun i => (single i).events).flatten ∧
    whole.errs = (is.map fun i => (single i).errs).flatten ∧
    whole.samples = (is.map fun i => (single i).samples).sum ∧
    whole.tagErrs + is.length * E = E + (is.map fun i => (single i).tagErrs).sum := by
  have hs' : ∀ i ∈ is, single i = after (startSt L E) (effect fl pf m (f i)) :=
    fun i hi => (hs i hi).trans (parseSample_eq ..)
  obtain ⟨h1, h2, h3, h4, -⟩ := foldl_parseSample fl pf m (is.map f) (startSt L E)
  rw [List.map_congr_left fun i hi => congrArg ParseOut.events (hs' i hi),
    List.map_congr_left fun i hi => congrArg ParseOut.errs (hs' i hi),
    List.map_congr_left fun i hi => congrArg ParseOut.samples (hs' i hi),
    List.map_congr_left fun i hi => congrArg ParseOut.tagErrs (hs' i hi),
    hw, h1, h2, h3, h4]
  simp only [after, startSt, List.nil_append, Nat.zero_add, List.length_map, List.map_map, Function.comp_def]
  exact ⟨trivial, trivial, by rw [List.map_const', List.sum_replicate_nat, Nat.mul_one], by rw [sum_map_add]; omega⟩

theorem MultiDom.no_dog_mem {e0 : Bytes} {ss : List Bytes} (d : MultiDom e0 ss)
    {s : Bytes} (hs : s ∈ ss) : containsSub [cPipe, cHash] s = false :=
  containsSub_false_of_infix (infix_joinWith_of_mem hs) d.no_dog

theorem MultiDom.samples {e0 : Bytes} {ss : List Bytes} (d : MultiDom e0 ss) (tagged : Bool) :
    lineSamples tagged (joinWith cColon ss) = .ok ss := by
  obtain ⟨s1, rest, hss, hp⟩ := d.first_pipe
  subst hss
  exact lineSamples_multi tagged hp d.no_colon d.no_dog

theorem isExtAggType_inv {T : Bytes} (h : isExtAggType T = true) : T = [109, 115] ∨ T = [104] ∨ T = [100] := by
  simpa [isExtAggType, or_assoc] using h

theorem extAgg_type {T : Bytes} (h : isExtAggType T = true) : cPipe ∉ T ∧ cColon ∉ T := by
  rcases isExtAggType_inv h with rfl | rfl | rfl <;> simp [cPipe, cColon]

theorem extAgg_dog {T : Bytes} (h : isExtAggType T = true) (rest : Bytes) :
    containsSub [cPipe, cHash] (cPipe :: (T ++ rest)) = containsSub [cPipe, cHash] rest := by
  rw [containsSub_cons, containsSub_skip _ _ (extAgg_type h).1]
  rcases isExtAggType_inv h with rfl | rfl | rfl <;> simp [List.isPrefixOf, cHash]

theorem ExtAggDom.lines {e0 : Bytes} {vs : List Bytes} {T rest : Bytes} (d : ExtAggDom e0 vs T rest)
    (fl : ParserFlags) (pf : Pf V) {nt : Bytes × Labels × Nat} (hnt : parseNameAndTags fl e0 = nt) :
    let whole := lineToEvents fl pf true (mkLine e0 (joinWith cColon vs ++ cPipe :: (T ++ rest)))
    ((containsSub [cPipe, cHash] rest && !nt.2.1.isEmpty) = true ∧
      whole = { errs := [.mixedTaggingStyles], tagErrs := nt.2.2 } ∧
      ∀ v ∈ vs, lineToEvents fl pf true (mkLine e0 (v ++ cPipe :: (T ++ rest))) =
        { errs := [.mixedTaggingStyles], tagErrs := nt.2.2 }) ∨
    (whole = (vs.map fun v => v ++ cPipe :: (T ++ rest)).foldl (parseSample fl pf nt.1) (startSt nt.2.1 nt.2.2) ∧
      ∀ v ∈ vs, lineToEvents fl pf true (mkLine e0 (v ++ cPipe :: (T ++ rest))) =
        parseSample fl pf nt.1 (startSt nt.2.1 nt.2.2) (v ++ cPipe :: (T ++ rest))) := by
  intro whole
  obtain ⟨hTp, hTc⟩ := extAgg_type d.type_ok
  obtain ⟨a, b, l, hvs⟩ := d.two
  have hJp : cPipe ∉ joinWith cColon vs := not_mem_joinWith (by decide) d.no_pipe
  -- the DogStatsD marker can only sit in the shared tail
  have hdog : ∀ x, cPipe ∉ x →
      containsSub [cPipe, cHash] (x ++ cPipe :: (T ++ rest)) = containsSub [cPipe, cHash] rest :=
    fun x hx => by rw [containsSub_skip _ _ hx, extAgg_dog d.type_ok]
  have line := fun e1 x => lineToEvents_of_samples fl pf d.name_ne d.name_colon hnt (e1 := e1) (x := x)
  cases hmix : containsSub [cPipe, cHash] rest && !nt.2.1.isEmpty with
  | true =>
    exact .inl ⟨rfl, line _ _ (lineSamples_mixed (by rw [hdog _ hJp]; exact hmix)),
      fun v hv => line _ _ (lineSamples_mixed (by rw [hdog v (d.no_pipe v hv)]; exact hmix))⟩
  | false =>
    refine .inr ⟨line _ (.ok _) ?_, fun v hv => line _ (.ok [_]) ?_⟩
    · rw [lineSamples_extagg hJp hTp d.rest_shape (by rw [hvs, joinWith_cons_cons]; simp)
        (by rw [hdog _ hJp]; exact hmix), if_pos d.type_ok, splitOn_joinWith (by rw [hvs]; simp) d.no_colon]
    · refine lineSamples_one _ (d.no_colon v hv) (by rw [hdog v (d.no_pipe v hv)]; exact hmix) fun hd => ?_
      rw [hdog v (d.no_pipe v hv)] at hd
      exact List.not_mem_append hTc (d.rest_colon.resolve_right (by rw [hd]; simp))

theorem parseSample_labels_rebuilt (fl : ParserFlags) (pf : Pf V) (m : Bytes) (o : ParseOut V)
    (v tail : Bytes) (hv : cPipe ∉ v) :
    (parseSample fl pf m o (v ++ cPipe :: tail)).labels =
      if sampleAccepted pf (v ++ cPipe :: tail) = true then
        applyKVs o.labels (((splitOn cPipe tail).drop 1).flatMap (compKVs fl))
      else o.labels := by
  rw [parseSample_eq]
  show applyKVs o.labels (effect fl pf m (v ++ cPipe :: tail)).kvs = _
  rw [effect_kvs, splitOn_append _ hv]
  split <;> rfl

/-- every rebuilt sample that is accepted re-applies the same assignments to the shared map -/
theorem foldl_rebuilt_labels (fl : ParserFlags) (pf : Pf V) (m : Bytes) (tail : Bytes) (vs : List Bytes)
    (hvs : ∀ v ∈ vs, cPipe ∉ v) :
    ∀ o : ParseOut V,
      ((vs.map fun v => v ++ cPipe :: tail).foldl (parseSample fl pf m) o).labels =
        if vs.any (fun v => sampleAccepted pf (v ++ cPipe :: tail)) = true then
          applyKVs o.labels (((splitOn cPipe tail).drop 1).flatMap (compKVs fl))
        else o.labels := by
  induction vs with
  | nil => intro o; rfl
  | cons v vs ih =>
    intro o
    rw [List.map_cons, List.foldl_cons, ih (fun x hx => hvs x (by simp [hx])),
      parseSample_labels_rebuilt fl pf m o v tail (hvs v (by simp)), List.any_cons]
    cases hacc : sampleAccepted pf (v ++ cPipe :: tail) with
    | true =>
      simp only [if_true, Bool.true_or, applyKVs_idem]
      split <;> rfl
    | false => simp

end SE
