import SE.Spec.Listener
import SE.Proofs.Bytes
import SE.Spec.Relay
/-
For C18. UDP: the packet queue driven by an arbitrary operation sequence is described by an explicit account computed
from the operations and the capacity alone (`UdpAcct`, `UdpRel.run`); what an account decides depends on its counters,
not on the bytes (`UdpAcct.Alike`). TCP: one `ReadLine` of the bufio chunk model does to the remaining stream what one
step of the stream specification does (`readLine_spec`), hence `tcpLinesOfChunks_eq`; the specification is `tcpFrame`
of `strings.Split(stream, "\n")` (`tcpLinesOfStream_eq_frame`). Last, what C18 needs to hand the lines to the relay of C17
(`newline_eq_lf`, `filter_lineFits_relayCallsOf`, `map_stripCR_splitOn`).
-/
namespace SE

/-- what the two goroutines of the UDP listener do to the packet queue -/
inductive UdpOp
  | enq (buf : Bytes) (n : Nat)   -- `EnqueueUdpPacket(buf, n)` (reader goroutine)
  | proc                          -- one iteration of `ProcessUdpPacketQueue` (blocked on an empty queue)
  deriving Repr, DecidableEq

def UdpOp.isEnq : UdpOp → Bool
  | .enq _ _ => true
  | .proc => false

/-- the copy `buf[:n]` an `enq` would put on the queue -/
def UdpOp.payload : UdpOp → Option Bytes
  | .enq buf n => some (buf.take n)
  | .proc => none

def stepUdp (s : UdpQ) : UdpOp → UdpQ
  | .enq buf n => s.enqueue buf n
  | .proc => s.process.getD s

/-- run an arbitrary interleaving of enqueues and processing steps -/
def runUdp (s : UdpQ) (ops : List UdpOp) : UdpQ := ops.foldl stepUdp s

/-- number of `EnqueueUdpPacket` calls in an operation sequence -/
def numEnq (ops : List UdpOp) : Nat := (ops.filter UdpOp.isEnq).length

/-- number of processing steps of a run that actually took a packet off the queue (computed on the
    model itself) -/
def successfulProcs (s : UdpQ) : List UdpOp → Nat
  | [] => 0
  | .proc :: ops => (if s.process.isSome then 1 else 0) + successfulProcs (stepUdp s .proc) ops
  | .enq buf n :: ops => successfulProcs (stepUdp s (.enq buf n)) ops

/-- The explicit account of a run, computed from the operation sequence and the capacity alone:
    `accepted` = the copies `buf.take n` of the datagrams that found room, in arrival order;
    `processed` = how many of them have been handled; `dropped`, `enqs` = counters. -/
structure UdpAcct where
  accepted : List Bytes := []
  processed : Nat := 0
  dropped : Nat := 0
  enqs : Nat := 0

def UdpAcct.step (c : Nat) (a : UdpAcct) : UdpOp → UdpAcct
  | .enq buf n =>
    if a.accepted.length - a.processed < c then
      { a with accepted := a.accepted ++ [buf.take n], enqs := a.enqs + 1 }
    else { a with dropped := a.dropped + 1, enqs := a.enqs + 1 }
  | .proc => if a.processed < a.accepted.length then { a with processed := a.processed + 1 } else a

def udpAcctFrom (c : Nat) (a : UdpAcct) (ops : List UdpOp) : UdpAcct := ops.foldl (UdpAcct.step c) a

def udpAcct (c : Nat) (ops : List UdpOp) : UdpAcct := udpAcctFrom c {} ops

/-- the line groups handed on so far: one group per processed packet -/
def UdpAcct.groups (a : UdpAcct) : List (List Bytes) := (a.accepted.take a.processed).map datagramLines

/-- the model state is the account -/
structure UdpRel (c : Nat) (s : UdpQ) (a : UdpAcct) : Prop where
  cap : s.cap = c
  le : a.processed ≤ a.accepted.length
  queue : s.queue = a.accepted.drop a.processed
  packets : s.packets = a.enqs
  drops : s.drops = a.dropped
  handled : s.handled = a.groups.flatten
  total : a.enqs = a.accepted.length + a.dropped
  room : s.queue.length ≤ c

theorem UdpRel.init (c : Nat) : UdpRel c { cap := c } {} :=
  ⟨rfl, Nat.le_refl _, rfl, rfl, rfl, rfl, rfl, Nat.zero_le _⟩

theorem UdpRel.step {c : Nat} {s : UdpQ} {a : UdpAcct} (h : UdpRel c s a) (op : UdpOp) :
    UdpRel c (stepUdp s op) (a.step c op) ∧
    (a.step c op).enqs = a.enqs + numEnq [op] ∧
    (a.step c op).processed = a.processed + successfulProcs s [op] ∧
    ∃ t, (a.step c op).accepted = a.accepted ++ t ∧ t.Sublist ([op].filterMap UdpOp.payload) := by
  obtain rfl := h.cap
  cases op with
  | enq buf n =>
    have hlen : s.queue.length = a.accepted.length - a.processed := by rw [h.queue, List.length_drop]
    unfold stepUdp UdpQ.enqueue UdpAcct.step
    dsimp only
    -- model and account branch on the same condition
    rw [hlen]
    by_cases hc : a.accepted.length - a.processed < s.cap
    · rw [if_pos hc, if_pos hc]
      refine ⟨{ h with le := ?_, queue := ?_, packets := congrArg (· + 1) h.packets, handled := ?_, total := ?_,
                       room := ?_ }, rfl, rfl, [buf.take n], rfl, .refl _⟩
      · rw [List.length_append]; exact Nat.le_add_right_of_le h.le
      · rw [h.queue, List.drop_append_of_le_length h.le]
      · rw [h.handled, UdpAcct.groups, UdpAcct.groups, List.take_append_of_le_length h.le]
      · rw [h.total, List.length_append]; exact Nat.add_right_comm ..
      · rw [List.length_append, hlen]; exact hc
    · rw [if_neg hc, if_neg hc]
      exact ⟨{ h with packets := congrArg (· + 1) h.packets, drops := congrArg (· + 1) h.drops,
                      total := congrArg (· + 1) h.total }, rfl, rfl, [], (List.append_nil _).symm, List.nil_sublist _⟩
  | proc =>
    -- with the queue written out, `stepUdp` and `successfulProcs` compute
    obtain ⟨cap, q, pk, dr, ls⟩ := s
    by_cases h1 : a.processed < a.accepted.length
    · obtain rfl : q = _ := h.queue.trans (List.drop_eq_getElem_cons h1)
      rw [show a.step cap .proc = { a with processed := a.processed + 1 } from if_pos h1]
      refine ⟨{ h with le := h1, queue := rfl, handled := ?_, room := Nat.le_of_succ_le h.room },
        rfl, rfl, [], (List.append_nil _).symm, List.nil_sublist _⟩
      show ls ++ datagramLines a.accepted[a.processed] =
        ((a.accepted.take (a.processed + 1)).map datagramLines).flatten
      rw [List.take_succ_eq_append_getElem h1, List.map_append, List.flatten_append, ← UdpAcct.groups, ← h.handled]
      exact congrArg _ List.flatten_singleton.symm
    · obtain rfl : q = [] := h.queue.trans (List.drop_eq_nil_of_le (Nat.le_of_not_lt h1))
      rw [show a.step cap .proc = a from if_neg h1]
      exact ⟨h, rfl, rfl, [], (List.append_nil _).symm, List.nil_sublist _⟩

theorem UdpRel.run {c : Nat} (ops : List UdpOp) : ∀ {s : UdpQ} {a : UdpAcct}, UdpRel c s a →
    UdpRel c (runUdp s ops) (udpAcctFrom c a ops) ∧
    (udpAcctFrom c a ops).enqs = a.enqs + numEnq ops ∧
    (udpAcctFrom c a ops).processed = a.processed + successfulProcs s ops ∧
    ∃ t, (udpAcctFrom c a ops).accepted = a.accepted ++ t ∧ t.Sublist (ops.filterMap UdpOp.payload) := by
  induction ops with
  | nil => exact fun h => ⟨h, rfl, rfl, [], (List.append_nil _).symm, .refl _⟩
  | cons op ops ih =>
    intro s a h
    obtain ⟨h', he, hp, t, ht, hsub⟩ := h.step op
    obtain ⟨g, ge, gp, u, hu, husub⟩ := ih h'
    have e1 : numEnq (op :: ops) = numEnq [op] + numEnq ops := by
      unfold numEnq
      rw [← List.length_append, ← List.filter_append]; rfl
    have e2 : successfulProcs s (op :: ops) = successfulProcs s [op] + successfulProcs (stepUdp s op) ops := by
      cases op <;> simp [successfulProcs]
    refine ⟨g, ?_, ?_, t ++ u, ?_, List.filterMap_append (l := [op]) ▸ hsub.append husub⟩
    · exact ge.trans (by rw [he, e1, Nat.add_assoc])
    · exact gp.trans (by rw [hp, e2, Nat.add_assoc])
    · exact hu.trans (by rw [ht, List.append_assoc])

theorem udp_reachable (c : Nat) (ops : List UdpOp) : UdpRel c (runUdp { cap := c } ops) (udpAcct c ops) :=
  (UdpRel.run ops (UdpRel.init c)).1

theorem udpAcct_spec (c : Nat) (ops : List UdpOp) :
    (udpAcct c ops).enqs = numEnq ops ∧ (udpAcct c ops).processed = successfulProcs { cap := c } ops ∧
    (udpAcct c ops).accepted.Sublist (ops.filterMap UdpOp.payload) := by
  obtain ⟨_, he, hp, t, ht, hsub⟩ := UdpRel.run ops (UdpRel.init c)
  exact ⟨he.trans (Nat.zero_add _), hp.trans (Nat.zero_add _), ht.trans (List.nil_append t) ▸ hsub⟩

theorem udpAcctFrom_append (c : Nat) (a : UdpAcct) (xs ys : List UdpOp) :
    udpAcctFrom c a (xs ++ ys) = udpAcctFrom c (udpAcctFrom c a xs) ys :=
  List.foldl_append

theorem runUdp_append (s : UdpQ) (xs ys : List UdpOp) :
    runUdp s (xs ++ ys) = runUdp (runUdp s xs) ys :=
  List.foldl_append

/-- two operation sequences have the same shape: the same kinds of operations in the same order,
    while the datagrams carried by the `enq`s may differ -/
inductive SameShape : List UdpOp → List UdpOp → Prop
  | nil : SameShape [] []
  | enq (b b' : Bytes) (n n' : Nat) {xs ys : List UdpOp} : SameShape xs ys →
      SameShape (.enq b n :: xs) (.enq b' n' :: ys)
  | proc {xs ys : List UdpOp} : SameShape xs ys → SameShape (.proc :: xs) (.proc :: ys)

/-- Kept by operations of the same kind: what an account accepts, drops or processes depends on these numbers only,
    not on the bytes. -/
structure UdpAcct.Alike (base : List Bytes) (a a' : UdpAcct) : Prop where
  left : base <+: a.accepted
  right : base <+: a'.accepted
  length : a.accepted.length = a'.accepted.length
  processed : a.processed = a'.processed
  dropped : a.dropped = a'.dropped

theorem UdpAcct.Alike.step (c : Nat) {base : List Bytes} {a a' : UdpAcct} {op op' : UdpOp}
    (h : Alike base a a') (hop : SameShape [op] [op']) : Alike base (a.step c op) (a'.step c op') := by
  obtain ⟨h1, h2, h3, h4, h5⟩ := h
  cases hop with
  | enq b b' n n' =>
    simp only [UdpAcct.step, h3, h4]
    split
    · exact ⟨h1.trans (List.prefix_append ..), h2.trans (List.prefix_append ..),
        by rw [List.length_append, List.length_append, h3]; rfl, rfl, h5⟩
    · exact ⟨h1, h2, h3, rfl, congrArg (· + 1) h5⟩
  | proc =>
    simp only [UdpAcct.step, h3, h4]
    split
    · exact ⟨h1, h2, h3, rfl, h5⟩
    · exact ⟨h1, h2, h3, h4, h5⟩

theorem UdpAcct.Alike.run (c : Nat) {base : List Bytes} {xs ys : List UdpOp} (h : SameShape xs ys) :
    ∀ {a a' : UdpAcct}, Alike base a a' → Alike base (udpAcctFrom c a xs) (udpAcctFrom c a' ys) := by
  induction h with
  | nil => exact id
  | enq b b' n n' _ ih => exact fun h => ih (h.step c (.enq b b' n n' .nil))
  | proc _ ih => exact fun h => ih (h.step c (.proc .nil))

theorem udpAcct_alike (c : Nat) (pre : List UdpOp) {post post' : List UdpOp} (h : SameShape post post') :
    UdpAcct.Alike (udpAcct c pre).accepted (udpAcct c (pre ++ post)) (udpAcct c (pre ++ post')) := by
  simp only [udpAcct, udpAcctFrom_append]
  exact .run c h ⟨List.prefix_rfl, List.prefix_rfl, rfl, rfl, rfl⟩

/-- the bytes the connection has not yet handed on: buffered ones and those still to be read -/
def RdSt.rem (s : RdSt) : Bytes := s.buf ++ s.chunks.flatten

/-- outcome of reading one line, at the level of the remaining stream -/
inductive RdRes
  | line (l rest : Bytes)
  | tooLong
  | eof
  deriving DecidableEq

/-- one step of `tcpLinesSpec` -/
def specRead (rem : Bytes) : RdRes :=
  match indexOf lf (rem.take bufSize) with
  | some i => .line (stripCR (rem.take i)) (rem.drop (i + 1))
  | none => if bufSize ≤ rem.length then .tooLong else if rem.isEmpty then .eof else .line rem []

/-- one `ReadLine` of the model, seen at the level of the remaining stream -/
def absRead : RdOut × RdSt → RdRes
  | (.line l, s) => .line l s.rem
  | (.prefix, _) => .tooLong
  | (.eof, _) => .eof

/-- number of `readLine` iterations that certainly suffice: one if the buffer is full, else one per
    chunk still to come plus the final one that sees EOF -/
def RdSt.need (s : RdSt) : Nat := if bufSize ≤ s.buf.length then 1 else s.chunks.length + 1

theorem RdSt.need_le (s : RdSt) : s.need ≤ s.chunks.length + 1 := by
  unfold RdSt.need
  split
  · exact Nat.le_add_left ..
  · exact Nat.le_refl _

theorem readLine_found {s : RdSt} {i : Nat} (fuel : Nat) (h : indexOf lf s.buf = some i) :
    s.readLine (fuel + 1) = (.line (stripCR (s.buf.take i)), { s with buf := s.buf.drop (i + 1) }) := by
  simp only [RdSt.readLine, h]

theorem readLine_full {s : RdSt} (fuel : Nat) (h : indexOf lf s.buf = none)
    (hf : bufSize ≤ s.buf.length) : s.readLine (fuel + 1) = (.prefix, s) := by
  simp only [RdSt.readLine, h, ge_iff_le, hf, if_true]

theorem readLine_fill {s s' : RdSt} (fuel : Nat) (h : indexOf lf s.buf = none)
    (hf : s.buf.length < bufSize) (hs : s.fill = some s') : s.readLine (fuel + 1) = s'.readLine fuel := by
  simp only [RdSt.readLine, h, ge_iff_le, Nat.not_le_of_lt hf, if_false, hs]

theorem readLine_eof {s : RdSt} (fuel : Nat) (h : indexOf lf s.buf = none)
    (hf : s.buf.length < bufSize) (hs : s.fill = none) :
    s.readLine (fuel + 1) = if s.buf.isEmpty then (.eof, s) else (.line s.buf, { s with buf := [] }) := by
  simp only [RdSt.readLine, h, ge_iff_le, Nat.not_le_of_lt hf, if_false, hs]

theorem fill_eq_none {s : RdSt} (h : s.fill = none) : s.chunks = [] := by
  obtain ⟨buf, chunks⟩ := s
  cases chunks with
  | nil => rfl
  | cons c rest => cases h

/-- `need` drops because either a whole chunk was consumed or the buffer is now full. -/
theorem fill_spec {s s' : RdSt} (hb : s.buf.length < bufSize) (h : s.fill = some s') :
    s'.rem = s.rem ∧ s'.buf.length ≤ bufSize ∧ s'.need + 1 ≤ s.need := by
  obtain ⟨buf, chunks⟩ := s
  cases chunks with
  | nil => cases h
  | cons c rest =>
    cases h
    dsimp only [RdSt.rem] at hb ⊢
    generalize hk : min c.length (bufSize - buf.length) = k
    refine ⟨?_, ?_, ?_⟩
    · -- whether or not a remainder of `c` is put back, what is still to come starts with `c.drop k`
      have : (if k < c.length then c.drop k :: rest else rest).flatten = c.drop k ++ rest.flatten := by
        split
        · rfl
        · next h1 => rw [List.drop_of_length_le (Nat.le_of_not_lt h1)]; rfl
      rw [this, List.append_assoc, ← List.append_assoc (c.take k), List.take_append_drop]; rfl
    · rw [List.length_append, List.length_take]; omega
    · rw [show RdSt.need ⟨buf, c :: rest⟩ = rest.length + 1 + 1 from if_neg (Nat.not_le_of_lt hb)]
      by_cases h1 : k < c.length
      · rw [show RdSt.need _ = 1 from if_pos (by rw [List.length_append, List.length_take]; omega)]
        exact Nat.le_add_left ..
      · rw [if_neg h1]; exact Nat.succ_le_succ (RdSt.need_le _)

theorem specRead_full {buf : Bytes} (rest : Bytes) (hb : bufSize ≤ buf.length) (hi : lf ∉ buf) :
    specRead (buf ++ rest) = .tooLong := by
  rw [specRead, List.take_append_of_le_length hb, indexOf_eq_none_iff.mpr fun h => hi (List.mem_of_mem_take h)]
  exact if_pos (List.length_append ▸ Nat.le_add_right_of_le hb)

theorem specRead_append {p : Bytes} (r : Bytes) (hp : lf ∉ p) :
    specRead (p ++ lf :: r) = if p.length < bufSize then .line (stripCR p) r else .tooLong := by
  by_cases h : p.length < bufSize
  · obtain ⟨m, hm⟩ : ∃ m, bufSize - p.length = m + 1 := ⟨bufSize - p.length - 1, by omega⟩
    rw [specRead, List.take_append, List.take_of_length_le (Nat.le_of_lt h), hm, List.take_succ_cons,
      indexOf_append _ hp, if_pos h]
    simp
  · rw [if_neg h]
    exact specRead_full _ (Nat.le_of_not_lt h) hp

theorem specRead_of_not_mem {stream : Bytes} (h : lf ∉ stream) :
    specRead stream =
      if bufSize ≤ stream.length then .tooLong else if stream.isEmpty then .eof else .line stream [] := by
  rw [specRead, indexOf_eq_none_iff.mpr fun hm => h (List.mem_of_mem_take hm)]

theorem readLine_spec : ∀ (fuel : Nat) (s : RdSt), s.buf.length ≤ bufSize → s.need ≤ fuel →
    absRead (s.readLine fuel) = specRead s.rem ∧ (s.readLine fuel).2.buf.length ≤ bufSize := by
  intro fuel
  induction fuel with
  | zero => intro s _ hn; exfalso; unfold RdSt.need at hn; split at hn <;> omega
  | succ fuel ih =>
    intro s hb hn
    cases hi : indexOf lf s.buf with
    | some i =>
      obtain ⟨hdec, hnot, hlt⟩ := indexOf_some hi
      have hrem : s.rem = s.buf.take i ++ lf :: (s.buf.drop (i + 1) ++ s.chunks.flatten) := by
        rw [RdSt.rem, ← List.cons_append, ← List.append_assoc, ← hdec]
      rw [readLine_found fuel hi, hrem, specRead_append _ hnot, if_pos (by rw [List.length_take]; omega)]
      exact ⟨rfl, Nat.le_trans (List.drop_sublist ..).length_le hb⟩
    | none =>
      by_cases hf : bufSize ≤ s.buf.length
      · rw [readLine_full fuel hi hf, RdSt.rem, specRead_full _ hf (indexOf_eq_none_iff.mp hi)]
        exact ⟨rfl, hb⟩
      · have hf' : s.buf.length < bufSize := Nat.lt_of_not_le hf
        cases hs : s.fill with
        | some s' =>
          obtain ⟨h1, h2, h3⟩ := fill_spec hf' hs
          rw [readLine_fill fuel hi hf' hs, ← h1]
          exact ih s' h2 (by omega)
        | none =>
          rw [readLine_eof fuel hi hf' hs, RdSt.rem, fill_eq_none hs, List.flatten_nil, List.append_nil,
            specRead_of_not_mem (indexOf_eq_none_iff.mp hi), if_neg hf]
          split
          · exact ⟨rfl, hb⟩
          · exact ⟨rfl, Nat.zero_le _⟩

theorem tcpLinesSpec_nil (fuel : Nat) (o : TcpOut) : tcpLinesSpec fuel [] o = o := by
  cases fuel <;> rfl

theorem specRead_line_length {rem l rest : Bytes} (h : specRead rem = .line l rest) :
    rest.length < rem.length := by
  cases rem with
  | nil => cases h
  | cons b bs =>
    unfold specRead at h
    split at h
    · cases h
      rw [List.drop_succ_cons, List.length_drop]
      exact Nat.lt_succ_of_le (Nat.sub_le ..)
    · split at h
      · cases h
      · cases h
        exact Nat.zero_lt_succ _

theorem tcpLinesSpec_succ (f : Nat) (stream : Bytes) (o : TcpOut) :
    tcpLinesSpec (f + 1) stream o =
      match specRead stream with
      | .line l rest => tcpLinesSpec f rest { o with lines := o.lines ++ [l] }
      | .tooLong => { o with tooLong := true }
      | .eof => o := by
  rw [tcpLinesSpec, specRead]
  cases indexOf lf (stream.take bufSize) with
  | some i => rfl
  | none =>
    dsimp only
    split
    · rfl
    · split
      · rfl
      · exact (tcpLinesSpec_nil f _).symm

theorem tcpConn_eq_spec : ∀ (f1 f2 : Nat) (s : RdSt) (o : TcpOut), s.buf.length ≤ bufSize →
    s.rem.length < f1 → s.rem.length < f2 → tcpConn f1 s o = tcpLinesSpec f2 s.rem o := by
  intro f1
  induction f1 with
  | zero => exact fun _ _ _ _ h _ => absurd h (Nat.not_lt_zero _)
  | succ g1 ih =>
    intro f2 s o hb h1 h2
    obtain ⟨g2, rfl⟩ : ∃ g, f2 = g + 1 := ⟨f2 - 1, by omega⟩
    obtain ⟨hr, hb'⟩ := readLine_spec (s.chunks.length + 2) s hb (Nat.le_succ_of_le s.need_le)
    rw [tcpLinesSpec_succ, tcpConn, ← hr]
    generalize s.readLine (s.chunks.length + 2) = r at hr hb'
    obtain ⟨out, s'⟩ := r
    cases out with
    | line l =>
      have hlt := specRead_line_length hr.symm
      exact ih g2 s' _ hb' (by omega) (by omega)
    | «prefix» => rfl
    | eof => rfl

theorem tcpLinesOfChunks_eq (chunks : List Bytes) :
    tcpLinesOfChunks chunks = tcpLinesOfStream chunks.flatten :=
  tcpConn_eq_spec _ (chunks.flatten.length + 1) ⟨[], chunks⟩ {} (Nat.zero_le _)
    (by show chunks.flatten.length < _; rw [← List.length_flatten]; omega) (Nat.lt_succ_self _)

/-- What a TCP connection hands on, given the pieces of the stream between newlines (`splitOn lf`),
    and whether it ends with "line too long": every piece that is followed by a newline (all but the
    last) is a line with one trailing `\r` stripped; the last piece is the unterminated tail, handed
    on as it is unless it is empty; the first piece of 4096 bytes or more stops everything. -/
def tcpFrame : List Bytes → List Bytes × Bool
  | [] => ([], false)
  | [p] => if bufSize ≤ p.length then ([], true) else if p.isEmpty then ([], false) else ([p], false)
  | p :: q :: ps =>
    if bufSize ≤ p.length then ([], true)
    else (stripCR p :: (tcpFrame (q :: ps)).1, (tcpFrame (q :: ps)).2)

theorem tcpFrame_cons {p : Bytes} {rest : List Bytes} (h : rest ≠ []) :
    tcpFrame (p :: rest) =
      if bufSize ≤ p.length then ([], true) else (stripCR p :: (tcpFrame rest).1, (tcpFrame rest).2) := by
  cases rest with
  | nil => exact absurd rfl h
  | cons q ps => rfl

theorem tcpLinesSpec_eq_frame : ∀ (fuel : Nat) (stream : Bytes) (o : TcpOut), stream.length < fuel →
    tcpLinesSpec fuel stream o =
      { lines := o.lines ++ (tcpFrame (splitOn lf stream)).1,
        tooLong := o.tooLong || (tcpFrame (splitOn lf stream)).2 } := by
  intro fuel
  induction fuel with
  | zero => exact fun _ _ h => absurd h (Nat.not_lt_zero _)
  | succ f ih =>
    intro stream o hf
    rw [tcpLinesSpec_succ]
    by_cases hm : lf ∈ stream
    · obtain ⟨p, r, rfl, hp⟩ := List.eq_append_cons_of_mem hm
      rw [specRead_append r hp, splitOn_append r hp, tcpFrame_cons (splitOn_ne_nil lf r)]
      by_cases h1 : p.length < bufSize
      · rw [if_pos h1, if_neg (Nat.not_le_of_lt h1)]
        rw [List.length_append, List.length_cons] at hf
        show tcpLinesSpec f r _ = _
        rw [ih r _ (by omega)]
        simp
      · rw [if_neg h1, if_pos (Nat.le_of_not_lt h1)]
        simp
    · rw [specRead_of_not_mem hm, splitOn_of_not_mem hm, tcpFrame]
      by_cases h1 : bufSize ≤ stream.length
      · rw [if_pos h1, if_pos h1]
        simp
      · rw [if_neg h1, if_neg h1]
        cases stream with
        | nil => simp
        | cons b bs => simp [tcpLinesSpec_nil]

theorem tcpLinesOfStream_eq_frame (stream : Bytes) :
    tcpLinesOfStream stream =
      { lines := (tcpFrame (splitOn lf stream)).1, tooLong := (tcpFrame (splitOn lf stream)).2 } := by
  rw [tcpLinesOfStream, tcpLinesSpec_eq_frame _ _ _ (Nat.lt_succ_self _), List.nil_append, Bool.false_or]

theorem tcpFrame_append {pre rest : List Bytes} (hs : ∀ p ∈ pre, p.length < bufSize) (hr : rest ≠ []) :
    tcpFrame (pre ++ rest) = (pre.map stripCR ++ (tcpFrame rest).1, (tcpFrame rest).2) := by
  induction pre with
  | nil => rfl
  | cons p pre ih =>
    rw [List.cons_append, tcpFrame_cons (by simp [hr]), if_neg (Nat.not_le_of_lt (hs p (List.mem_cons_self ..))),
      ih fun x hx => hs x (List.mem_cons_of_mem _ hx)]
    rfl

theorem tcpFrame_long (pre : List Bytes) (l : Bytes) (post : List Bytes)
    (hs : ∀ p ∈ pre, p.length < bufSize) (hl : bufSize ≤ l.length) :
    tcpFrame (pre ++ l :: post) = (pre.map stripCR, true) := by
  have : tcpFrame (l :: post) = ([], true) := by cases post <;> exact if_pos hl
  rw [tcpFrame_append hs (List.cons_ne_nil _ _), this, List.append_nil]

theorem tcpFrame_short (pre : List Bytes) (t : Bytes) (hs : ∀ p ∈ pre, p.length < bufSize)
    (ht : t.length < bufSize) :
    tcpFrame (pre ++ [t]) = (pre.map stripCR ++ if t.isEmpty then [] else [t], false) := by
  rw [tcpFrame_append hs (List.cons_ne_nil _ _), tcpFrame, if_neg (Nat.not_le_of_lt ht)]
  split <;> rfl

theorem tcpLinesOfStream_long {stream : Bytes} {pre : List Bytes} {l : Bytes} {post : List Bytes}
    (hsplit : splitOn lf stream = pre ++ l :: post) (hs : ∀ p ∈ pre, p.length < bufSize) (hl : bufSize ≤ l.length) :
    tcpLinesOfStream stream = { lines := pre.map stripCR, tooLong := true } := by
  rw [tcpLinesOfStream_eq_frame, hsplit, tcpFrame_long pre l post hs hl]

theorem tcpLinesOfStream_short {stream : Bytes} {pre : List Bytes} {t : Bytes}
    (hsplit : splitOn lf stream = pre ++ [t]) (hs : ∀ p ∈ pre, p.length < bufSize) (ht : t.length < bufSize) :
    tcpLinesOfStream stream = { lines := pre.map stripCR ++ if t.isEmpty then [] else [t], tooLong := false } := by
  rw [tcpLinesOfStream_eq_frame, hsplit, tcpFrame_short pre t hs ht]

theorem stripCR_of_not_mem {l : Bytes} (h : cr ∉ l) : stripCR l = l :=
  if_neg fun hc => h (List.mem_of_getLast? (beq_iff_eq.mp hc))

/-- the relay (`newline`, SE/Model/Relay.lean) and the listeners (`lf`, SE/Model/Listener.lean) each name byte 10 -/
theorem newline_eq_lf : newline = lf := rfl

/-- the relay's length test also rejects empty lines, so the listeners' `len(line) > 0` guard in
    front of `RelayLine` changes nothing -/
theorem filter_lineFits_relayCallsOf (n : Nat) (lines : List Bytes) :
    (relayCallsOf lines).filter (lineFits n) = lines.filter (lineFits n) := by
  unfold relayCallsOf
  rw [List.filter_filter]
  congr 1
  funext l
  unfold lineFits
  cases l.isEmpty <;> simp

theorem map_stripCR_splitOn {p : Bytes} (h : cr ∉ p) : (splitOn lf p).map stripCR = splitOn lf p :=
  (List.map_congr_left fun _ hq => stripCR_of_not_mem fun hc => h ((infix_of_mem_splitOn hq).mem hc)).trans (List.map_id _)

end SE
