import SE.Model.Hash
import SE.Proofs.RegistryLabels
/-
The two byte strings `Registry.HashLabels` feeds to FNV-64a (SE/Model/Hash.lean) are instances of one encoding: a list
of pieces, every piece followed by the separator byte, injective on pieces that do not contain the separator
(`flatMap_sep_injective`). The names input encodes the sorted names, the values input `names ++ [[]] ++ values`; C05
finds the boundary between names and values by counting (as many values as names), so label names need not be
assumed non-empty.
-/
namespace SE

theorem sep_split {α : Type} (sep : α) (x y r1 r2 : List α) (h : x ++ sep :: r1 = y ++ sep :: r2)
    (hx : sep ∉ x) (hy : sep ∉ y) : x = y ∧ r1 = r2 := by
  -- equal heads are peeled off; when one piece runs out first, the other goes on with the separator
  induction x generalizing y with
  | nil =>
    cases y with
    | nil => exact ⟨rfl, (List.cons.inj h).2⟩
    | cons b y => exact absurd ((List.cons.inj h).1 ▸ List.mem_cons_self) hy
  | cons a x ih =>
    cases y with
    | nil => exact absurd ((List.cons.inj h).1 ▸ List.mem_cons_self) hx
    | cons b y =>
      obtain ⟨rfl, h'⟩ := List.cons.inj h
      obtain ⟨rfl, e⟩ := ih y h' (mt (List.mem_cons_of_mem _) hx) (mt (List.mem_cons_of_mem _) hy)
      exact ⟨rfl, e⟩

theorem flatMap_sep_injective {α : Type} (sep : α) (xs ys : List (List α))
    (h : xs.flatMap (· ++ [sep]) = ys.flatMap (· ++ [sep])) (hx : ∀ x ∈ xs, sep ∉ x) (hy : ∀ y ∈ ys, sep ∉ y) :
    xs = ys := by
  induction xs generalizing ys with
  | nil =>
    cases ys with
    | nil => rfl
    | cons y ys => simp at h
  | cons x xs ih =>
    cases ys with
    | nil => simp at h
    | cons y ys =>
      obtain ⟨hx1, hx2⟩ := List.forall_mem_cons.mp hx
      obtain ⟨hy1, hy2⟩ := List.forall_mem_cons.mp hy
      rw [List.flatMap_cons, List.flatMap_cons, List.append_assoc, List.append_assoc] at h
      obtain ⟨rfl, e⟩ := sep_split sep x y _ _ h hx1 hy1
      rw [ih ys e hx2 hy2]

/-- no label name and no label value contains the separator byte 0xFF. The line parser produces
    only such labels, lines being checked to be valid UTF-8, in which 0xFF does not occur; that is an argument about the
    code, no theorem here derives `NoSep` for the pipeline's labels. -/
def NoSep (l : Labels) : Prop := ∀ kv ∈ l, sepByte ∉ kv.1 ∧ sepByte ∉ kv.2

instance (l : Labels) : Decidable (NoSep l) := by unfold NoSep; infer_instance

theorem namesHashInput_eq (l : Labels) : namesHashInput l = (l.sorted.map (·.1)).flatMap (· ++ [sepByte]) := by
  rw [List.flatMap_map]; rfl

theorem valuesHashInput_eq (l : Labels) :
    valuesHashInput l = (l.sorted.map (·.1) ++ [] :: l.sorted.map (·.2)).flatMap (· ++ [sepByte]) := by
  rw [List.flatMap_append, List.flatMap_cons, List.flatMap_map, List.flatMap_map]; rfl

/-- stated for the pieces of the values input; those of the names input are the first of them -/
theorem NoSep.pieces {l : Labels} (h : NoSep l) :
    ∀ x ∈ l.sorted.map (·.1) ++ [] :: l.sorted.map (·.2), sepByte ∉ x := by
  intro x hx
  simp only [List.mem_append, List.mem_cons, List.mem_map, mem_sorted] at hx
  rcases hx with ⟨kv, hkv, rfl⟩ | rfl | ⟨kv, hkv, rfl⟩
  · exact (h kv hkv).1
  · exact List.not_mem_nil
  · exact (h kv hkv).2

theorem eq_of_map_fst_snd {α β : Type} (l1 l2 : List (α × β)) (h1 : l1.map (·.1) = l2.map (·.1))
    (h2 : l1.map (·.2) = l2.map (·.2)) : l1 = l2 := by
  rw [← List.zip_unzip l1, ← List.zip_unzip l2, List.unzip_eq_map, List.unzip_eq_map]
  simp only [h1, h2]

end SE
