import SE.Model.Exporter
import SE.Proofs.LineLabels
/-
Label algebra for C05: what `Labels.set`, `mergeLabels` and `Labels.sorted` do to membership, keys and `Labels.get?`;
the merge loop is read key by key against `lastGet` (`mergeLabels_get?`). The equations of `set`/`get?`/`has`
themselves are at the head of SE/Proofs/LineLabels.lean.
-/
namespace SE

theorem Labels.mem_set (L : Labels) (k v : Bytes) (x : Bytes × Bytes) (h : x ∈ L.set k v) : x ∈ L ∨ x = (k, v) := by
  induction L with
  | nil => exact Or.inr (List.mem_singleton.mp h)
  | cons kv rest ih =>
    rw [Labels.set_cons] at h
    by_cases hk : kv.1 = k
    · rw [if_pos hk, List.mem_cons] at h
      rcases h with e | hm
      · exact Or.inr (by rw [e, hk])
      · exact Or.inl (List.mem_cons_of_mem _ hm)
    · rw [if_neg hk, List.mem_cons] at h
      rcases h with e | hm
      · exact Or.inl (e ▸ List.mem_cons_self)
      · exact (ih hm).imp_left (List.mem_cons_of_mem _)

def keysOf (L : Labels) : List Bytes := L.map (·.1)

theorem Labels.has_iff_mem_keys (L : Labels) (k : Bytes) : L.has k = true ↔ k ∈ keysOf L := by
  induction L with
  | nil => simp [Labels.has_nil, keysOf]
  | cons kv rest ih =>
    rw [Labels.has_cons, Bool.or_eq_true, beq_iff_eq, ih, eq_comm]
    exact List.mem_cons.symm

theorem Labels.keys_set (L : Labels) (k v : Bytes) :
    keysOf (L.set k v) = if k ∈ keysOf L then keysOf L else keysOf L ++ [k] := by
  induction L with
  | nil => rfl
  | cons kv rest ih =>
    rw [Labels.set_cons]
    by_cases hk : kv.1 = k
    · rw [if_pos hk, if_pos (hk ▸ List.mem_cons_self)]; rfl
    · have hm : k ∈ keysOf (kv :: rest) ↔ k ∈ keysOf rest := List.mem_cons.trans (or_iff_right (Ne.symm hk))
      rw [if_neg hk]
      show kv.1 :: keysOf (Labels.set rest k v) = _
      rw [ih]
      simp only [hm]
      split <;> rfl

theorem Labels.nodup_keys_set (L : Labels) (k v : Bytes) (h : (keysOf L).Nodup) : (keysOf (L.set k v)).Nodup := by
  rw [Labels.keys_set]
  split
  · exact h
  · next hk => exact (List.perm_append_singleton k _).nodup_iff.mpr (List.nodup_cons.mpr ⟨hk, h⟩)

theorem Labels.get?_eq_some_iff (L : Labels) (h : (keysOf L).Nodup) (k v : Bytes) :
    L.get? k = some v ↔ (k, v) ∈ L := by
  induction L with
  | nil => simp [Labels.get?]
  | cons kv rest ih =>
    obtain ⟨hn, hr⟩ := List.nodup_cons.mp h
    rw [Labels.get?_cons, List.mem_cons]
    by_cases hk : kv.1 = k
    · subst hk
      rw [if_pos rfl, Option.some.injEq]
      constructor
      · rintro rfl; exact Or.inl rfl
      · rintro (e | hm)
        · exact (congrArg (·.2) e).symm
        · exact absurd (List.mem_map_of_mem (f := (·.1)) hm) hn
    · rw [if_neg hk, ih hr]
      exact ⟨Or.inr, fun h => h.resolve_left fun e => hk (congrArg (·.1) e).symm⟩

theorem Labels.get?_perm {l l' : Labels} (p : l'.Perm l) (h : (keysOf l).Nodup) (k : Bytes) : l'.get? k = l.get? k :=
  Option.ext fun v => by
    rw [Labels.get?_eq_some_iff l' ((p.map _).nodup_iff.mpr h), Labels.get?_eq_some_iff l h, p.mem_iff]

/-- what the rule labels assign to `k` in the merge loop: a later one overwrites an earlier one -/
def lastGet : List (Bytes × Bytes) → Bytes → Option Bytes
  | [], _ => none
  | (k1, v1) :: t, k =>
    match lastGet t k with
    | some v => some v
    | none => if k1 == k then some v1 else none

theorem lastGet_eq_get? (rl : List (Bytes × Bytes)) (h : (keysOf rl).Nodup) (k : Bytes) :
    lastGet rl k = Labels.get? rl k := by
  induction rl with
  | nil => rfl
  | cons kv t ih =>
    obtain ⟨hn, ht⟩ := List.nodup_cons.mp h
    rw [lastGet, ih ht, Labels.get?_cons]
    by_cases hk : kv.1 = k
    · subst hk
      -- the key of the head is not a key of the tail
      rw [Option.not_isSome_iff_eq_none.mp fun hs => hn ((Labels.has_iff_mem_keys t kv.1).mp hs)]
      simp only [beq_self_eq_true, if_true]
    · rw [if_neg hk]
      cases Labels.get? t k <;> simp only [beq_false_of_ne hk, Bool.false_eq_true, if_false]

theorem mergeLabels_eq_foldl (tags : Labels) (rl : List (Bytes × Bytes)) (honor : Bool) :
    mergeLabels tags rl honor =
      rl.foldl (fun acc (kv : Bytes × Bytes) => if honor && tags.has kv.1 then acc else acc.set kv.1 kv.2) tags := rfl

/-- the merge loop started from any map `acc`, key by key; `mergeLabels` is the case `acc = tags` -/
theorem mergeLabels_get? (tags : Labels) (rl : List (Bytes × Bytes)) (honor : Bool) (k : Bytes) (acc : Labels) :
    (rl.foldl (fun acc (kv : Bytes × Bytes) => if honor && tags.has kv.1 then acc else acc.set kv.1 kv.2) acc).get? k =
      if honor = true ∧ tags.has k = true then acc.get? k else
      match lastGet rl k with
      | some v => some v
      | none => acc.get? k := by
  induction rl generalizing acc with
  | nil => exact (ite_self _).symm
  | cons kv t ih =>
    obtain ⟨k1, v1⟩ := kv
    have hstep : (if (honor && tags.has k1) = true then acc else acc.set k1 v1).get? k =
        if honor = true ∧ tags.has k = true then acc.get? k else if k1 = k then some v1 else acc.get? k := by
      rw [apply_ite (Labels.get? · k), Labels.get?_set]
      by_cases hk : k1 = k
      · simp only [hk, Bool.and_eq_true, if_true]
      · simp only [if_neg hk, ite_self]
    rw [List.foldl_cons, ih, hstep, lastGet]
    by_cases hh : honor = true ∧ tags.has k = true
    · simp only [if_pos hh]
    · simp only [if_neg hh]
      cases lastGet t k <;> simp only [beq_iff_eq]
      split <;> rfl

theorem mergeLabels_induction {P : Labels → Prop} (tags : Labels) (rl : List (Bytes × Bytes)) (honor : Bool)
    (h0 : P tags) (hset : ∀ acc kv, kv ∈ rl → P acc → P (acc.set kv.1 kv.2)) : P (mergeLabels tags rl honor) := by
  rw [mergeLabels_eq_foldl]
  refine List.foldlRecOn rl _ h0 fun acc hacc kv hkv => ?_
  split
  · exact hacc
  · exact hset acc kv hkv hacc

theorem insertSorted_perm (kv : Bytes × Bytes) (l : Labels) : (insertSorted kv l).Perm (kv :: l) := by
  induction l with
  | nil => exact List.Perm.refl _
  | cons x xs ih =>
    simp only [insertSorted]
    split
    · exact List.Perm.refl _
    · exact (List.Perm.cons x ih).trans (List.Perm.swap kv x xs)

theorem sorted_perm (l : Labels) : l.sorted.Perm l := by
  induction l with
  | nil => exact List.Perm.refl _
  | cons x xs ih => exact (insertSorted_perm x _).trans (List.Perm.cons x ih)

theorem mem_sorted (l : Labels) (x : Bytes × Bytes) : x ∈ l.sorted ↔ x ∈ l := (sorted_perm l).mem_iff

end SE
