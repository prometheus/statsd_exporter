import SE.Model.Bytes
/-
The byte-string helpers of SE/Model/Bytes.lean on strings with and without the separator.
A string with `c` in it is `a ++ c :: b` with no `c` in `a` (`List.eq_append_cons_of_mem`): `cut`, `indexOf` and
`splitOn` are computed on that form, their inversions read the result off it, and facts about all pieces of
`splitOn` go by `sep_induction` over it. `containsSub` is `<:+:` (`containsSub_iff`).
-/
namespace SE

theorem ne_of_not_mem_cons {c b : UInt8} {a : Bytes} (h : c ∉ b :: a) : b ≠ c ∧ c ∉ a :=
  ⟨(List.ne_of_not_mem_cons h).symm, List.not_mem_of_not_mem_cons h⟩

theorem not_mem_append_cons {c b : UInt8} {a x : Bytes} (ha : c ∉ a) (hb : c ≠ b) (hx : c ∉ x) :
    c ∉ a ++ b :: x :=
  List.not_mem_append ha (List.not_mem_cons_of_ne_of_not_mem hb hx)

theorem cut_append {c : UInt8} {a : Bytes} (b : Bytes) (h : c ∉ a) :
    cut c (a ++ c :: b) = some (a, b) := by
  induction a with
  | nil => simp [cut]
  | cons x xs ih =>
    obtain ⟨hx, hxs⟩ := ne_of_not_mem_cons h
    simp [cut, hx, ih hxs]

theorem cut_eq_none_iff {c : UInt8} {s : Bytes} : cut c s = none ↔ c ∉ s := by
  refine ⟨fun h hm => ?_, fun h => ?_⟩
  · obtain ⟨a, b, rfl, ha⟩ := List.eq_append_cons_of_mem hm
    rw [cut_append b ha] at h
    cases h
  · induction s with
    | nil => rfl
    | cons b bs ih =>
      obtain ⟨hb, hbs⟩ := ne_of_not_mem_cons h
      simp [cut, hb, ih hbs]

theorem cut_some {c : UInt8} {s a b : Bytes} (h : cut c s = some (a, b)) :
    s = a ++ c :: b ∧ c ∉ a := by
  by_cases hm : c ∈ s
  · obtain ⟨a', b', rfl, ha⟩ := List.eq_append_cons_of_mem hm
    rw [cut_append b' ha] at h
    cases h
    exact ⟨rfl, ha⟩
  · rw [cut_eq_none_iff.mpr hm] at h
    cases h

theorem indexOf_append {c : UInt8} {a : Bytes} (b : Bytes) (h : c ∉ a) :
    indexOf c (a ++ c :: b) = some a.length := by
  induction a with
  | nil => simp [indexOf]
  | cons x xs ih =>
    obtain ⟨hx, hxs⟩ := ne_of_not_mem_cons h
    simp [indexOf, hx, ih hxs]

theorem indexOf_eq_none_iff {c : UInt8} {s : Bytes} : indexOf c s = none ↔ c ∉ s := by
  refine ⟨fun h hm => ?_, fun h => ?_⟩
  · obtain ⟨a, b, rfl, ha⟩ := List.eq_append_cons_of_mem hm
    rw [indexOf_append b ha] at h
    cases h
  · induction s with
    | nil => rfl
    | cons b bs ih =>
      obtain ⟨hb, hbs⟩ := ne_of_not_mem_cons h
      simp [indexOf, hb, ih hbs]

theorem indexOf_some {c : UInt8} {s : Bytes} {i : Nat} (h : indexOf c s = some i) :
    s = s.take i ++ c :: s.drop (i + 1) ∧ c ∉ s.take i ∧ i < s.length := by
  by_cases hm : c ∈ s
  · obtain ⟨a, b, rfl, ha⟩ := List.eq_append_cons_of_mem hm
    rw [indexOf_append b ha] at h
    cases h
    simp [ha]
  · rw [indexOf_eq_none_iff.mpr hm] at h
    cases h

theorem containsByte_iff {c : UInt8} {a : Bytes} : containsByte c a = true ↔ c ∈ a := by
  rw [containsByte, List.any_beq', List.contains_iff_mem]

theorem splitOn_of_not_mem {c : UInt8} {a : Bytes} (h : c ∉ a) : splitOn c a = [a] := by
  induction a with
  | nil => rfl
  | cons b bs ih =>
    obtain ⟨hb, hbs⟩ := ne_of_not_mem_cons h
    simp [splitOn, hb, ih hbs]

theorem splitOn_append {c : UInt8} {a : Bytes} (b : Bytes) (h : c ∉ a) :
    splitOn c (a ++ c :: b) = a :: splitOn c b := by
  induction a with
  | nil => simp [splitOn]
  | cons x xs ih =>
    obtain ⟨hx, hxs⟩ := ne_of_not_mem_cons h
    simp [splitOn, hx, ih hxs]

theorem sep_induction {c : UInt8} {motive : Bytes → Prop} (base : ∀ a, c ∉ a → motive a)
    (step : ∀ a b, c ∉ a → motive b → motive (a ++ c :: b)) (s : Bytes) : motive s := by
  by_cases h : c ∈ s
  · obtain ⟨a, b, rfl, ha⟩ := List.eq_append_cons_of_mem h
    exact step a b ha (sep_induction base step b)
  · exact base s h
termination_by s.length
decreasing_by
  subst_vars
  simp only [List.length_append, List.length_cons]
  omega

theorem splitOn_ne_nil (c : UInt8) (s : Bytes) : splitOn c s ≠ [] := by
  induction s using sep_induction (c := c) with
  | base a ha => rw [splitOn_of_not_mem ha]; exact List.cons_ne_nil a []
  | step a b ha _ => rw [splitOn_append b ha]; exact List.cons_ne_nil a _

theorem splitOn_eq_concat (c : UInt8) (s : Bytes) : ∃ pre t, splitOn c s = pre ++ [t] :=
  ⟨_, _, (List.dropLast_concat_getLast (splitOn_ne_nil c s)).symm⟩

theorem splitOn_append_sep (c : UInt8) (s t : Bytes) :
    splitOn c (s ++ c :: t) = splitOn c s ++ splitOn c t := by
  induction s using sep_induction (c := c) with
  | base a ha => rw [splitOn_append t ha, splitOn_of_not_mem ha]; rfl
  | step a b ha ih =>
    rw [List.append_assoc, List.cons_append, splitOn_append _ ha, ih, splitOn_append b ha]
    rfl

theorem splitOn_two_of_mem {c : UInt8} {s : Bytes} (h : c ∈ s) :
    ∃ v t extra, splitOn c s = v :: t :: extra := by
  obtain ⟨a, r, rfl, ha⟩ := List.eq_append_cons_of_mem h
  obtain ⟨t, extra, ht⟩ := List.exists_cons_of_ne_nil (splitOn_ne_nil c r)
  exact ⟨a, t, extra, by rw [splitOn_append r ha, ht]⟩

theorem not_mem_of_mem_splitOn {c : UInt8} {s p : Bytes} (h : p ∈ splitOn c s) : c ∉ p := by
  induction s using sep_induction (c := c) with
  | base a ha =>
    rw [splitOn_of_not_mem ha, List.mem_singleton] at h
    exact h ▸ ha
  | step a b ha ih =>
    rw [splitOn_append b ha] at h
    rcases List.mem_cons.mp h with rfl | h
    · exact ha
    · exact ih h

theorem splitOn_length_le (c : UInt8) (s : Bytes) : (splitOn c s).length ≤ s.length + 1 := by
  induction s using sep_induction (c := c) with
  | base a ha => rw [splitOn_of_not_mem ha]; exact Nat.le_add_left 1 _
  | step a b ha ih =>
    rw [splitOn_append b ha, List.length_cons, List.length_append, List.length_cons]
    omega

theorem joinWith_cons_cons (c : UInt8) (p q : Bytes) (ps : List Bytes) :
    joinWith c (p :: q :: ps) = p ++ c :: joinWith c (q :: ps) := rfl

theorem joinWith_splitOn (c : UInt8) (s : Bytes) : joinWith c (splitOn c s) = s := by
  induction s using sep_induction (c := c) with
  | base a ha => rw [splitOn_of_not_mem ha]; rfl
  | step a b ha ih =>
    obtain ⟨q, qs, hq⟩ := List.exists_cons_of_ne_nil (splitOn_ne_nil c b)
    rw [splitOn_append b ha, hq, joinWith_cons_cons, ← hq, ih]

theorem splitOn_joinWith {c : UInt8} {ps : List Bytes} (hne : ps ≠ [])
    (h : ∀ p ∈ ps, c ∉ p) : splitOn c (joinWith c ps) = ps := by
  induction ps with
  | nil => exact absurd rfl hne
  | cons p rest ih =>
    obtain ⟨hp, hrest⟩ := List.forall_mem_cons.mp h
    cases rest with
    | nil => exact splitOn_of_not_mem hp
    | cons q qs => rw [joinWith_cons_cons, splitOn_append _ hp, ih (List.cons_ne_nil q qs) hrest]

theorem not_mem_joinWith {x c : UInt8} {ps : List Bytes} (hx : x ≠ c) (h : ∀ p ∈ ps, x ∉ p) :
    x ∉ joinWith c ps := by
  induction ps with
  | nil => exact List.not_mem_nil
  | cons p rest ih =>
    obtain ⟨hp, hrest⟩ := List.forall_mem_cons.mp h
    cases rest with
    | nil => exact hp
    | cons q qs => exact not_mem_append_cons hp hx (ih hrest)

theorem infix_joinWith_of_mem {c : UInt8} {p : Bytes} : ∀ {ps : List Bytes}, p ∈ ps → p <:+: joinWith c ps
  | [q], h => by rw [List.mem_singleton.mp h]; exact List.infix_rfl
  | q :: r :: rs, h => by
    rw [joinWith_cons_cons]
    rcases List.mem_cons.mp h with rfl | h
    · exact List.infix_append_left
    · exact List.infix_append_of_infix_right (List.infix_cons (infix_joinWith_of_mem h))

theorem infix_of_mem_splitOn {c : UInt8} {s p : Bytes} (h : p ∈ splitOn c s) : p <:+: s := by
  rw [← joinWith_splitOn c s]; exact infix_joinWith_of_mem h

theorem containsSub_cons (sub : Bytes) (b : UInt8) (bs : Bytes) :
    containsSub sub (b :: bs) = (sub.isPrefixOf (b :: bs) || containsSub sub bs) := rfl

theorem containsSub_iff {sub s : Bytes} : containsSub sub s = true ↔ sub <:+: s := by
  induction s with
  | nil => rw [containsSub, List.isEmpty_iff, List.infix_nil]
  | cons b bs ih =>
    rw [containsSub_cons, Bool.or_eq_true, ih, List.isPrefixOf_iff_prefix, List.infix_cons_iff]

theorem containsSub_false_of_infix {sub s t : Bytes} (hst : s <:+: t) (h : containsSub sub t = false) :
    containsSub sub s = false :=
  Bool.eq_false_iff.mpr fun hs =>
    Bool.eq_false_iff.mp h (containsSub_iff.mpr ((containsSub_iff.mp hs).trans hst))

theorem containsSub_eq_false {x : UInt8} {sub s : Bytes} (hx : x ∈ sub) (h : x ∉ s) :
    containsSub sub s = false :=
  Bool.eq_false_iff.mpr fun hc => h ((containsSub_iff.mp hc).mem hx)

theorem containsSub_skip {x : UInt8} (ys : Bytes) {a : Bytes} (t : Bytes) (h : x ∉ a) :
    containsSub (x :: ys) (a ++ t) = containsSub (x :: ys) t := by
  induction a with
  | nil => rfl
  | cons b bs ih =>
    obtain ⟨hb, hbs⟩ := ne_of_not_mem_cons h
    rw [List.cons_append, containsSub_cons, ih hbs]
    simp [List.isPrefixOf, Ne.symm hb]

theorem cons_infix_cons_of_mem_splitOn {c : UInt8} {s p : Bytes} (h : p ∈ splitOn c s) :
    c :: p <:+: c :: s := by
  induction s using sep_induction (c := c) with
  | base a ha =>
    rw [splitOn_of_not_mem ha, List.mem_singleton] at h
    exact h ▸ List.infix_rfl
  | step a b ha ih =>
    rw [splitOn_append b ha] at h
    rcases List.mem_cons.mp h with rfl | h
    · exact (List.prefix_append (c :: p) (c :: b)).isInfix
    · exact (ih h).trans (List.suffix_append (c :: a) (c :: b)).isInfix

theorem containsSub_of_piece {c d : UInt8} {s p q : Bytes} {ps : List Bytes}
    (h : splitOn c s = p :: ps) (hq : (d :: q) ∈ ps) : containsSub [c, d] s = true := by
  by_cases hm : c ∈ s
  · obtain ⟨a, b, rfl, ha⟩ := List.eq_append_cons_of_mem hm
    rw [splitOn_append b ha] at h
    cases h
    exact containsSub_iff.mpr (((List.prefix_append [c, d] q).isInfix.trans
      (cons_infix_cons_of_mem_splitOn hq)).trans (List.suffix_append p (c :: b)).isInfix)
  · rw [splitOn_of_not_mem hm] at h
    cases h
    cases hq

theorem splitN3_of_not_mem {c : UInt8} {s : Bytes} (h : c ∉ s) : splitN3 c s = [s] := by
  simp [splitN3, cut_eq_none_iff.mpr h]

theorem splitN3_two {c : UInt8} {a r : Bytes} (ha : c ∉ a) (hr : c ∉ r) :
    splitN3 c (a ++ c :: r) = [a, r] := by
  simp [splitN3, cut_append r ha, cut_eq_none_iff.mpr hr]

theorem splitN3_three {c : UInt8} {a b : Bytes} (r : Bytes) (ha : c ∉ a) (hb : c ∉ b) :
    splitN3 c (a ++ c :: (b ++ c :: r)) = [a, b, r] := by
  simp [splitN3, cut_append _ ha, cut_append r hb]

theorem splitN3_shape {c : UInt8} {p0 p1 rest : Bytes} (hp0 : c ∉ p0) (hp1 : c ∉ p1)
    (hrest : rest = [] ∨ ∃ r, rest = c :: r) :
    ∃ tl, splitN3 c (p0 ++ c :: (p1 ++ rest)) = p0 :: p1 :: tl := by
  rcases hrest with rfl | ⟨r, rfl⟩
  · exact ⟨[], by rw [List.append_nil]; exact splitN3_two hp0 hp1⟩
  · exact ⟨[r], splitN3_three r hp0 hp1⟩

theorem splitN3_append {c : UInt8} {a : Bytes} (r : Bytes) (ha : c ∉ a) :
    ∃ p1 tl, splitN3 c (a ++ c :: r) = a :: p1 :: tl := by
  by_cases h : c ∈ r
  · obtain ⟨b, r', rfl, hb⟩ := List.eq_append_cons_of_mem h
    exact ⟨b, [r'], splitN3_three r' ha hb⟩
  · exact ⟨r, [], splitN3_two ha h⟩

theorem joinWith_splitN3 (c : UInt8) (s : Bytes) : joinWith c (splitN3 c s) = s := by
  unfold splitN3
  split
  · rfl
  · next a r h =>
    rw [(cut_some h).1]
    split
    · rfl
    · next b r' h' => rw [(cut_some h').1]; rfl

theorem splitOn_head_length {c : UInt8} {s l : Bytes} {post : List Bytes} {k : Nat}
    (hs : splitOn c s = l :: post) (hk : k ≤ s.length) (hc : c ∉ s.take k) : k ≤ l.length := by
  by_cases hm : c ∈ s
  · obtain ⟨a, r, rfl, ha⟩ := List.eq_append_cons_of_mem hm
    cases (splitOn_append r ha).symm.trans hs
    -- were the piece shorter than `k`, the separator after it would be among the first `k` bytes
    apply Nat.le_of_not_lt
    intro hlt
    exact hc (List.mem_take_iff_getElem.2 ⟨l.length, Nat.lt_min.2 ⟨hlt, by simp⟩, List.getElem_of_append rfl rfl⟩)
  · cases (splitOn_of_not_mem hm).symm.trans hs
    exact hk

end SE
