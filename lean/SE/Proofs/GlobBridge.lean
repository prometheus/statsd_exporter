import SE.Proofs.GlobOrder
import SE.Proofs.FirstMatch
import SE.Proofs.ListLemmas
import SE.Proofs.Bytes
/-
From a `Config` to the type root handed to the glob FSM and back. `globMatching cfg name ty` lists, in configuration
order, the glob rules that pass the type filter and match `name`, each with its index in `cfg.rules` and its glob
index (= FSM priority). Without the glob indices it is the candidate list of both specifications (`specCands_eq`),
with them the matching part of the FSM's type root (`rulesFor_matching`). So `lookupGlob` is, in either mode, the
entry the mode's specification selects (`globWinner`), with its captures and formatted templates (`lookupGlob_eq`).
-/
namespace SE
variable {V : Type}

/-- the glob rules with their configuration index, rule first (the model's `globRules` has the index first) -/
def globK (cfg : Config V) : List (Rule V × Nat) :=
  cfg.rules.zipIdx.filter (fun x => x.1.matchType == .glob)

/-- entries: ((rule, configuration index), glob index) -/
def globMatching (cfg : Config V) (name : Pat) (ty : Nat) : List ((Rule V × Nat) × Nat) :=
  (globK cfg).zipIdx.filter fun ((r, _), _) => globMatches r.pat name && typeOk r.matchMetricType ty

theorem typeOk_eq (m : Option Nat) (ty : Nat) : (m.isNone || m == some ty) = typeOk m ty := by
  cases m <;> simp [typeOk]

theorem globRules_eq (cfg : Config V) : globRules cfg = (globK cfg).map (fun x => (x.2, x.1)) := rfl

theorem rulesFor_matching (cfg : Config V) (name : Pat) (ty : Nat) :
    (rulesFor (toGRules cfg) ty).filter (fun r => globMatches r.2 name) =
      (globMatching cfg name ty).map fun ((r, _), g) => (g, r.pat) := by
  unfold rulesFor toGRules globMatching
  -- `toGRules cfg` is `globK cfg` mapped: the maps move out past `zipIdx` and both filters, and the filters merge
  rw [globRules_eq, List.map_map, List.zipIdx_map, List.filter_map, List.filter_filter, List.filter_map,
    List.map_map]
  simp only [Function.comp_def, Prod.map, typeOk_eq, id]

theorem rulesFor_sorted (rules : List GRule) (ty : Nat) : Sorted (rulesFor rules ty) := by
  unfold Sorted rulesFor
  rw [List.pairwise_map]
  exact List.Pairwise.filter _ (ListLemmas.zipIdx_pairwise rules 0)

theorem specCands_eq (cfg : Config V) (name : Pat) (ty : Nat) :
    cfg.rules.zipIdx.filter (fun x => ruleMatchesGlob x.1 name ty) = (globMatching cfg name ty).map (·.1) := by
  unfold globMatching
  -- dropping the glob indices leaves two filters of `cfg.rules.zipIdx`, whose conjunction is `ruleMatchesGlob`
  rw [ListLemmas.filter_zipIdx_fst fun x : Rule V × Nat => globMatches x.1.pat name && typeOk x.1.matchMetricType ty,
    globK, List.filter_filter]
  congr 1
  funext x
  rw [Bool.and_comm, ← Bool.and_assoc]
  rfl

theorem mem_specCands {cfg : Config V} {name : Pat} {ty : Nat} {r : Rule V} {i : Nat} :
    (r, i) ∈ cfg.rules.zipIdx.filter (fun x => ruleMatchesGlob x.1 name ty) ↔
      cfg.rules[i]? = some r ∧ ruleMatchesGlob r name ty = true := by
  rw [List.mem_filter, List.mem_zipIdx_iff_getElem?]

theorem globMatching_eq_nil_iff {cfg : Config V} {name : Pat} {ty : Nat} :
    globMatching cfg name ty = [] ↔ ∀ r ∈ cfg.rules, ruleMatchesGlob r name ty = false := by
  rw [← List.map_eq_nil_iff (f := (·.1)), ← specCands_eq, ← List.map_eq_nil_iff (f := (·.1)),
    ListLemmas.filter_zipIdx_fst (fun r => ruleMatchesGlob r name ty), List.filter_eq_nil_iff]
  simp only [Bool.not_eq_true]

theorem firstGlob_eq_head (cfg : Config V) (name : Bytes) (ty : Nat) :
    firstGlob cfg name ty = (globMatching cfg (splitOn 46 name) ty).head?.map (·.1.2) := by
  rw [firstGlob_eq_find, ← List.head?_filter, specCands_eq, List.head?_map, Option.map_map]
  rfl

theorem firstGlob_none_iff {cfg : Config V} {name : Bytes} {ty : Nat} :
    firstGlob cfg name ty = none ↔ ∀ r ∈ cfg.rules, ruleMatchesGlob r (splitOn 46 name) ty = false := by
  rw [firstGlob_eq_head, Option.map_eq_none_iff, List.head?_eq_none_iff, globMatching_eq_nil_iff]

theorem foldl_msStep_map {α β} (g : α → β) (pat : β → Pat) (l : List α) :
    (l.map g).foldl (msStep pat) none = (l.foldl (msStep fun a => pat (g a)) none).map g := by
  rw [List.foldl_map]
  refine List.foldl_hom (Option.map g) (init := none) fun o a => ?_
  cases o with
  | none => rfl
  | some b => simp only [msStep, Option.map_some]; split <;> rfl

theorem mostSpecificGlob_cands (cfg : Config V) (name : Bytes) (ty : Nat) :
    mostSpecificGlob cfg name ty =
      ((cfg.rules.zipIdx.filter (fun x => ruleMatchesGlob x.1 (splitOn 46 name) ty)).foldl
        (msStep (fun c : Rule V × Nat => c.1.pat)) none).map (·.2) := by
  unfold mostSpecificGlob
  simp only
  congr 2
  funext best c
  cases best <;> rfl

theorem mostSpecificGlob_eq_fold (cfg : Config V) (name : Bytes) (ty : Nat) :
    mostSpecificGlob cfg name ty =
      ((globMatching cfg (splitOn 46 name) ty).foldl (msStep fun y => y.1.1.pat) none).map (·.1.2) := by
  rw [mostSpecificGlob_cands, specCands_eq, foldl_msStep_map, Option.map_map]
  rfl

/-- the entry of the matching list the FSM selects: unordered, the spec's most specific rule; ordered, the first -/
def globWinner (cfg : Config V) (name : Pat) (ty : Nat) : Option ((Rule V × Nat) × Nat) :=
  if cfg.orderingDisabled then (globMatching cfg name ty).foldl (msStep fun y => y.1.1.pat) none
  else (globMatching cfg name ty).head?

theorem globWinner_ordered {cfg : Config V} (hord : cfg.orderingDisabled = false) (name : Pat) (ty : Nat) :
    globWinner cfg name ty = (globMatching cfg name ty).head? := by
  rw [globWinner, hord]
  rfl

theorem globWinner_unordered {cfg : Config V} (hod : cfg.orderingDisabled = true) (name : Pat) (ty : Nat) :
    globWinner cfg name ty = (globMatching cfg name ty).foldl (msStep fun y => y.1.1.pat) none := by
  rw [globWinner, hod]
  rfl

theorem globWinner_some {cfg : Config V} {name : Pat} {ty : Nat} {r : Rule V} {i g : Nat}
    (h : globWinner cfg name ty = some ((r, i), g)) :
    (globRules cfg)[g]? = some (i, r) ∧ cfg.rules[i]? = some r ∧ ruleMatchesGlob r name ty = true := by
  have hm : ((r, i), g) ∈ globMatching cfg name ty := by
    cases hod : cfg.orderingDisabled
    · rw [globWinner_ordered hod] at h
      exact List.mem_of_head? h
    · rw [globWinner_unordered hod] at h
      exact (foldl_msStep_min h).1
  have h1 := List.mem_zipIdx_iff_getElem?.mp (List.mem_filter.mp hm).1
  refine ⟨by rw [globRules_eq, List.getElem?_map, h1]; rfl, mem_specCands.mp ?_⟩
  rw [specCands_eq]
  exact List.mem_map_of_mem hm

theorem mem_rulesFor {rules : List GRule} {ty i : Nat} {p : Pat} :
    (i, p) ∈ rulesFor rules ty ↔ ∃ t, rules[i]? = some ⟨p, t⟩ ∧ typeOk t ty = true := by
  simp only [rulesFor, List.mem_map, List.mem_filter, List.mem_zipIdx_iff_getElem?, typeOk_eq]
  constructor
  · rintro ⟨⟨r, j⟩, ⟨h1, h2⟩, h3⟩
    cases h3
    exact ⟨r.ty, h1, h2⟩
  · rintro ⟨t, h1, h2⟩
    exact ⟨(⟨p, t⟩, i), ⟨h1, h2⟩, rfl⟩

theorem ambiguousAt_mono {rs rs' : TRules} (hsub : ∀ r ∈ rs, r ∈ rs') (h : ambiguousAt rs = true) :
    ambiguousAt rs' = true := by
  simp only [ambiguousAt, List.any_eq_true, Bool.and_eq_true] at h ⊢
  obtain ⟨r1, h1, k, hk, hs, r2, h2, hr2⟩ := h
  exact ⟨r1, hsub _ h1, k, hk, hs, r2, hsub _ h2, hr2⟩

theorem rulesFor_sub_of_untyped {rules : List GRule} {ty : Nat} (hty : ty ∉ rules.filterMap GRule.ty)
    (ty' : Nat) : ∀ x ∈ rulesFor rules ty, x ∈ rulesFor rules ty' := by
  rintro ⟨i, p⟩ hx
  rw [mem_rulesFor] at hx ⊢
  obtain ⟨t, hi, ht⟩ := hx
  cases t with
  | none => exact ⟨none, hi, rfl⟩
  | some t =>
    have hte : t = ty := by simpa [typeOk] using ht
    exact absurd (List.mem_filterMap.mpr ⟨_, List.mem_of_getElem? hi, by rw [hte]⟩) hty

/-- `HasAmbiguousTransitions = false` says that *every* type root is non-ambiguous: the roots the
    rules name are inspected directly, every other type sees a subset of root 0 -/
theorem ambiguousAt_rulesFor_of_not_ambiguous {rules : List GRule} (h : ambiguous rules = false) (ty : Nat) :
    ambiguousAt (rulesFor rules ty) = false := by
  simp only [ambiguous, List.any_eq_false] at h
  rw [Bool.eq_false_iff]
  intro hA
  by_cases hmem : ty ∈ [0, 1, 2] ++ rules.filterMap GRule.ty
  · exact h ty hmem hA
  · exact h 0 (by simp)
      (ambiguousAt_mono (rulesFor_sub_of_untyped (fun hc => hmem (List.mem_append_right _ hc)) 0) hA)

/-- whatever the heuristic `needBT` answers: with the flag off no root is ambiguous (the repair), and then the
    search does not depend on the flag -/
theorem globLookup_unordered (rules : List GRule) (name : Pat) (ty : Nat) :
    globLookup rules true name ty = pick false (dfs (rulesFor rules ty) true [] [] name) := by
  simp only [globLookup, Bool.not_true]
  cases hb : backtracking rules true with
  | true => rfl
  | false =>
    simp only [backtracking, Bool.or_eq_false_iff] at hb
    rw [dfs_deterministic _ (ambiguousAt_rulesFor_of_not_ambiguous hb.2 ty)]

theorem globLookup_eq (cfg : Config V) (name : Pat) (hne : name ≠ []) (ty : Nat) :
    globLookup (toGRules cfg) cfg.orderingDisabled name ty =
      (globWinner cfg name ty).map fun ((r, _), g) => ⟨g, capturesOf r.pat name⟩ := by
  cases hod : cfg.orderingDisabled with
  | false =>
    -- ordered mode always backtracks: `needBT` (`TestIfNeedBacktracking`) answers `true` at once
    show pick true (dfs (rulesFor (toGRules cfg) ty) true [] [] name) = _
    rw [pick_ordered_dfs _ (rulesFor_sorted _ _) name hne, rulesFor_matching, List.head?_map, Option.map_map,
      globWinner_ordered hod]
    rfl
  | true =>
    rw [globLookup_unordered, pick_unordered_dfs _ name hne, rulesFor_matching, foldl_msStep_map,
      Option.map_map, globWinner_unordered hod]
    rfl

theorem lookupGlob_eq (cfg : Config V) (name : Bytes) (ty : Nat) :
    lookupGlob cfg name ty = (globWinner cfg (splitOn 46 name) ty).map fun ((r, i), _) =>
      { ruleIdx := i,
        name := (compileTemplate r.name r.captureCount).format (capturesOf r.pat (splitOn 46 name)),
        labels := r.labels.map fun (k, t) =>
          (k, (compileTemplate t r.captureCount).format (capturesOf r.pat (splitOn 46 name))) } := by
  unfold lookupGlob
  rw [globLookup_eq cfg _ (splitOn_ne_nil _ _) ty]
  cases hw : globWinner cfg (splitOn 46 name) ty with
  | none => rfl
  | some y =>
    obtain ⟨⟨r, i⟩, g⟩ := y
    simp only [Option.map_some, (globWinner_some hw).1]

theorem lookupGlob_eq_none_iff {cfg : Config V} {name : Bytes} {ty : Nat} :
    lookupGlob cfg name ty = none ↔ ∀ r ∈ cfg.rules, ruleMatchesGlob r (splitOn 46 name) ty = false := by
  rw [lookupGlob_eq, Option.map_eq_none_iff, ← globMatching_eq_nil_iff]
  cases hod : cfg.orderingDisabled
  · rw [globWinner_ordered hod, List.head?_eq_none_iff]
  · rw [globWinner_unordered hod, foldl_msStep_none_iff]

theorem lookupGlob_isSome_iff {cfg : Config V} {name : Bytes} {ty : Nat} :
    (lookupGlob cfg name ty).isSome = true ↔ ∃ r ∈ cfg.rules, ruleMatchesGlob r (splitOn 46 name) ty = true := by
  rw [Option.isSome_iff_ne_none, ne_eq, lookupGlob_eq_none_iff]
  simp only [Classical.not_forall, Bool.not_eq_false, exists_prop]

theorem regex_eq_firstRegex (cfg : Config V) (rx : Rx) (name : Bytes) (ty : Nat) :
    (lookupRegex cfg rx name ty).map (·.ruleIdx) = firstRegex cfg rx name ty := by
  unfold lookupRegex firstRegex
  apply ListLemmas.findSome?_map_eq_find?_map
  rintro ⟨r, i⟩
  -- both sides make the same three tests: a regex rule, the oracle matches, the type filter
  cases hmt : (r.matchType == MatchTy.regex) <;> cases hrx : rx i name <;> cases hty : r.matchMetricType <;>
    simp [bne, hmt, hrx, hty, typeOk]

/-- the loader's invariant on the `doFSM` flag (`load` sets it this way) -/
def DoFSMConsistent (cfg : Config V) : Prop := cfg.doFSM = cfg.rules.any (·.matchType == .glob)

/-- `lookup`'s two tests only skip a lookup that would fail: without a glob rule the glob lookup fails, without a
    regex rule the regex lookup does -/
theorem lookup_eq_or (cfg : Config V) (hwf : DoFSMConsistent cfg) (rx : Rx) (name : Bytes) (ty : Nat) :
    lookup cfg rx name ty = (lookupGlob cfg name ty).or (lookupRegex cfg rx name ty) := by
  unfold lookup
  cases hfsm : cfg.doFSM
  · rw [hwf, List.any_eq_false] at hfsm
    rw [lookupGlob_eq_none_iff.mpr fun r hr => by simp [ruleMatchesGlob, hfsm r hr]]
    rfl
  · cases hl : lookupGlob cfg name ty with
    | some m => rfl
    | none =>
      cases hany : cfg.rules.any (·.matchType == .regex)
      · rw [List.any_eq_false] at hany
        symm
        unfold lookupRegex
        rw [if_pos rfl, Option.none_or, if_neg Bool.false_ne_true, List.findSome?_eq_none_iff]
        rintro ⟨r, i⟩ hmem
        exact if_pos (by simpa [bne] using hany r (List.fst_mem_of_mem_zipIdx hmem))
      · rfl

theorem ruleMatchesGlob_pat {r : Rule V} {name : Pat} {ty : Nat} (h : ruleMatchesGlob r name ty = true) :
    globMatches r.pat name = true := by
  simp only [ruleMatchesGlob, Bool.and_eq_true] at h
  exact h.1.2

theorem foldl_msStep_perm {α} (pat : α → Pat) {l₁ l₂ : List α} (hp : l₁.Perm l₂) (name : Pat)
    (hm : ∀ a ∈ l₁, globMatches (pat a) name = true) :
    (l₁.foldl (msStep pat) none).map pat = (l₂.foldl (msStep pat) none).map pat := by
  cases h₁ : l₁.foldl (msStep pat) none with
  | none =>
    rw [foldl_msStep_none_iff] at h₁
    subst h₁
    rw [← hp.nil_eq]
    rfl
  | some w₁ =>
    obtain ⟨hw₁, hmin₁⟩ := foldl_msStep_min h₁
    cases h₂ : l₂.foldl (msStep pat) none with
    | none =>
      rw [foldl_msStep_none_iff] at h₂
      subst h₂
      rw [hp.eq_nil] at hw₁
      cases hw₁
    | some w₂ =>
      obtain ⟨hw₂, hmin₂⟩ := foldl_msStep_min h₂
      have hw₂' := hp.mem_iff.mpr hw₂
      exact congrArg some (moreSpecific_total _ _ name (hm _ hw₁) (hm _ hw₂')
        (hmin₂ _ (hp.mem_iff.mp hw₁)) (hmin₁ _ hw₂'))

theorem mostSpecificGlob_pat_eq (cfg : Config V) (name : Bytes) (ty : Nat) :
    (mostSpecificGlob cfg name ty).bind (fun i => cfg.rules[i]?.map (·.pat)) =
      ((cfg.rules.filter fun r => ruleMatchesGlob r (splitOn 46 name) ty).foldl (msStep Rule.pat) none).map
        Rule.pat := by
  rw [← ListLemmas.filter_zipIdx_fst _ _ 0, foldl_msStep_map, mostSpecificGlob_cands, Option.bind_map, Option.map_map,
    Option.map_eq_bind]
  refine Option.bind_congr fun w hw => ?_
  simp [(mem_specCands.mp (foldl_msStep_min hw).1).1]

end SE
