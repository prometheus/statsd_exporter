import SE.Proofs.HelpUniform
/-
`Gather` next to pre-registered families. `gatherOk_iff` reads `checkSuffixCollisions` as "some family is named like a
companion series of some family"; splitting the families into the live statsd ones and the pre-registered ones gives
four cases: statsd/statsd (`SuffixFree`), pre/pre (the pre-registered families scrape fine by themselves) and the two
mixed ones. Hence `gatherOk_iff_of_invariants`, the exact condition on a suffix-free, help-uniform registry. `AvoidsPre`
(SE/Spec/Registry.lean) is the sufficient condition that leaves nothing to agree with; `pre = []` is its instance.
-/
set_option linter.unusedSectionVars false
namespace SE
variable {V : Type} [NumOps V]

theorem avoidsPre_iff (pre : List (Bytes × MType × Bytes)) (name : Bytes) (ty : MType) :
    AvoidsPre pre name ty = true ↔
      ∀ p, p ∈ pre → p.1 ≠ name ∧ p.1 ∉ companionNames name ty ∧ name ∉ companionNames p.1 p.2.1 := by
  unfold AvoidsPre
  simp only [List.all_eq_true, Bool.and_eq_true, bne_iff_ne, Bool.not_eq_true', List.contains_eq_mem,
    decide_eq_false_iff_not, and_assoc]

theorem gatherOk_only_if {r : Reg V} (h : r.gatherOk = true) :
    ({ metrics := [], pre := r.pre } : Reg V).gatherOk = true ∧
    ∀ m, m ∈ r.metrics → m.series.isEmpty = false → preOk r.pre m = true ∧
      ∀ q, q ∈ r.pre → q.1 ∉ companionNames m.name m.ty ∧ m.name ∉ companionNames q.1 q.2.1 := by
  obtain ⟨h1, h2⟩ := (gatherOk_iff r).mp h
  refine ⟨(gatherOk_empty_pre _).mpr ?_, fun m hm he => ⟨(h1 m hm he).2, fun q hq => ?_⟩⟩
  · -- fewer families: the pre-registered ones alone
    rintro ⟨x, hx, y, hy, hxy⟩
    exact h2 ⟨x, List.mem_append_right _ hx, y, List.mem_append_right _ hy, hxy⟩
  · have hm' : (m.name, m.ty) ∈ liveFams r := mem_liveFams.mpr (.inl ⟨m, hm, he, rfl⟩)
    have hq' : (q.1, q.2.1) ∈ liveFams r := mem_liveFams.mpr (.inr ⟨q, hq, rfl⟩)
    exact ⟨fun hc => h2 ⟨_, hm', _, hq', hc⟩, fun hc => h2 ⟨_, hq', _, hm', hc⟩⟩

/-- the statsd/statsd case of `checkSuffixCollisions` is `SuffixFree`, the first check of `Gather` is `HelpUniform`;
    every registry a history reaches has both (`gatherInv_runOps`) -/
theorem gatherOk_iff_of_invariants {r : Reg V} (hs : SuffixFree r) (hh : HelpUniform r) :
    r.gatherOk = true ↔
      ({ metrics := [], pre := r.pre } : Reg V).gatherOk = true ∧
      ∀ m, m ∈ r.metrics → m.series.isEmpty = false → preOk r.pre m = true ∧
        ∀ q, q ∈ r.pre → q.1 ∉ companionNames m.name m.ty ∧ m.name ∉ companionNames q.1 q.2.1 := by
  refine ⟨gatherOk_only_if, fun ⟨hp, hall⟩ => (gatherOk_iff r).mpr
    ⟨fun m hm he => ⟨helpConsistent_of_vecs (hh m hm), (hall m hm he).1⟩, ?_⟩⟩
  rintro ⟨x, hx, y, hy, hxy⟩
  rcases mem_liveFams.mp hx with ⟨m, hm, he, rfl⟩ | ⟨p, hp', rfl⟩ <;>
    rcases mem_liveFams.mp hy with ⟨m', hm', he', rfl⟩ | ⟨q, hq, rfl⟩
  · exact (suffixFree_iff r).mp hs m hm m' hm' hxy
  · exact ((hall m hm he).2 q hq).1 hxy
  · exact ((hall m' hm' he').2 p hp').2 hxy
  · exact (gatherOk_empty_pre _).mp hp ⟨_, List.mem_map_of_mem hp', _, List.mem_map_of_mem hq, hxy⟩

theorem gatherOk_of_invariants_pre {r : Reg V} (hs : SuffixFree r) (hh : HelpUniform r)
    (hp : ({ metrics := [], pre := r.pre } : Reg V).gatherOk = true)
    (hav : ∀ m, m ∈ r.metrics → m.series.isEmpty = false → AvoidsPre r.pre m.name m.ty = true) :
    r.gatherOk = true := by
  refine (gatherOk_iff_of_invariants hs hh).mpr ⟨hp, fun m hm he => ?_⟩
  have ha := (avoidsPre_iff _ _ _).mp (hav m hm he)
  exact ⟨(preOk_iff _ _).mpr fun p hp' e => absurd e (ha p hp').1, fun q hq => (ha q hq).2⟩

theorem gatherOk_of_suffixFree_helpUniform {r : Reg V} (hs : SuffixFree r) (hh : HelpUniform r) (hpre : r.pre = []) :
    r.gatherOk = true :=
  gatherOk_of_invariants_pre hs hh (by rw [hpre]; rfl) (fun _ _ _ => by rw [hpre]; rfl)

theorem pre_steps (rx : Rx) (pre : List (Bytes × MType × Bytes)) :
    StepInv rx (fun _ => True) (fun p : Pipe V => p.reg.pre = pre) (fun _ => True) :=
  StepInv.ofReg (I := fun r => r.pre = pre) (fun h _ hg => (getOrCreate_pre hg).trans h)
    (fun _ h => h) (fun _ _ h => h)

theorem pre_runOps (rx : Rx) (ops : List (PipeOp V)) {p p' : Pipe V} (h : runOps rx p ops = some (.ok p')) :
    p'.reg.pre = p.reg.pre :=
  ((pre_steps rx p.reg.pre).runOps ops p (fun _ _ => trivial) rfl).ok h

theorem reg_eq_of_no_metrics {r : Reg V} (h : r.metrics = []) : r = { metrics := [], pre := r.pre } := by
  cases r
  cases h
  rfl

theorem gatherInv_runOps (rx : Rx) (ops : List (PipeOp V)) {p p' : Pipe V} (hw : RegWF p.reg) (hs : SuffixFree p.reg)
    (hh : HelpUniform p.reg) (h : runOps rx p ops = some (.ok p')) :
    SuffixFree p'.reg ∧ HelpUniform p'.reg ∧ p'.reg.pre = p.reg.pre :=
  ⟨SuffixFree_runOps rx ops hw hs h, HelpUniform_runOps rx ops hw hh h, pre_runOps rx ops h⟩

theorem gatherInv_of_no_metrics (rx : Rx) (ops : List (PipeOp V)) {p p' : Pipe V} (h0 : p.reg.metrics = [])
    (h : runOps rx p ops = some (.ok p')) : SuffixFree p'.reg ∧ HelpUniform p'.reg ∧ p'.reg.pre = p.reg.pre := by
  have e := reg_eq_of_no_metrics h0
  exact gatherInv_runOps rx ops (e ▸ RegWF_empty _) (e ▸ SuffixFree_empty _) (e ▸ HelpUniform_empty _) h

end SE
