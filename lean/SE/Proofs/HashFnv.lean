import SE.Model.Hash
/-
What can be proved about the FNV-64a model (SE/Model/Hash.lean) without pretending it is collision free:
every step is a bijection of the 64-bit state for a fixed byte and injective in the byte for a fixed state.
Consequences: a common suffix can be cancelled, inputs that differ in exactly one byte never collide, and
the values hash is the names hash continued over `ValueBuf`.
-/
namespace SE

/-- the multiplicative inverse of the FNV prime modulo 2^64 (the prime is odd) -/
def fnvPrimeInv : BitVec 64 := 14886173955864302971#64

theorem fnvPrime_mul_inv : fnvPrime * fnvPrimeInv = 1#64 := by decide

theorem mul_fnvPrime_inj {a b : BitVec 64} (h : a * fnvPrime = b * fnvPrime) : a = b := by
  have h2 := congrArg (· * fnvPrimeInv) h
  simp only [BitVec.mul_assoc, fnvPrime_mul_inv, BitVec.mul_one] at h2
  exact h2

theorem byteWord_inj {a b : UInt8} (h : BitVec.ofNat 64 a.toNat = BitVec.ofNat 64 b.toNat) : a = b := by
  have h2 := congrArg BitVec.toNat h
  simp only [BitVec.toNat_ofNat] at h2
  have ha := a.toNat_lt
  have hb := b.toNat_lt
  apply UInt8.toNat_inj.mp
  omega

theorem fnvStep_state_inj {h1 h2 : BitVec 64} {c : UInt8} (h : fnvStep h1 c = fnvStep h2 c) : h1 = h2 :=
  (BitVec.xor_left_inj _).mp (mul_fnvPrime_inj h)

theorem fnvStep_byte_inj {h0 : BitVec 64} {a b : UInt8} (h : fnvStep h0 a = fnvStep h0 b) : a = b :=
  byteWord_inj ((BitVec.xor_right_inj _).mp (mul_fnvPrime_inj h))

def fnvUnstep (h : BitVec 64) (c : UInt8) : BitVec 64 := (h * fnvPrimeInv) ^^^ BitVec.ofNat 64 c.toNat

theorem fnvStep_unstep (h : BitVec 64) (c : UInt8) : fnvStep (fnvUnstep h c) c = h := by
  unfold fnvStep fnvUnstep
  rw [BitVec.xor_assoc, BitVec.xor_self, BitVec.xor_zero, BitVec.mul_assoc,
    BitVec.mul_comm fnvPrimeInv fnvPrime, fnvPrime_mul_inv, BitVec.mul_one]

theorem fnvFrom_nil (h : BitVec 64) : fnvFrom h [] = h := rfl
theorem fnvFrom_cons (h : BitVec 64) (c : UInt8) (bs : Bytes) :
    fnvFrom h (c :: bs) = fnvFrom (fnvStep h c) bs := rfl
theorem fnvFrom_append (h : BitVec 64) (xs ys : Bytes) :
    fnvFrom h (xs ++ ys) = fnvFrom (fnvFrom h xs) ys :=
  List.foldl_append

theorem fnvFrom_state_inj (bs : Bytes) : ∀ {h1 h2 : BitVec 64}, fnvFrom h1 bs = fnvFrom h2 bs → h1 = h2 := by
  induction bs with
  | nil => intro h1 h2 h; exact h
  | cons c bs ih => intro h1 h2 h; exact fnvStep_state_inj (ih h)

theorem fnvFrom_state_surj (bs : Bytes) : ∀ h : BitVec 64, ∃ h0, fnvFrom h0 bs = h := by
  induction bs with
  | nil => intro h; exact ⟨h, rfl⟩
  | cons c bs ih =>
    intro h
    obtain ⟨h1, e⟩ := ih h
    exact ⟨fnvUnstep h1 c, by rw [fnvFrom_cons, fnvStep_unstep, e]⟩

theorem fnv64a_append (xs ys : Bytes) : fnv64a (xs ++ ys) = fnvFrom (fnv64a xs) ys :=
  fnvFrom_append _ _ _

theorem fnvFrom_one_byte (h0 : BitVec 64) (p s : Bytes) {a b : UInt8} (hab : a ≠ b) :
    fnvFrom h0 (p ++ a :: s) ≠ fnvFrom h0 (p ++ b :: s) := by
  intro h
  rw [fnvFrom_append, fnvFrom_append, fnvFrom_cons, fnvFrom_cons] at h
  exact hab (fnvStep_byte_inj (fnvFrom_state_inj s h))

theorem valuesHash_eq (l : Labels) : valuesHash l = fnv64a (valuesHashInput l) :=
  (fnv64a_append _ _).symm

theorem namesHash_eq (l : Labels) : namesHash l = fnv64a (namesHashInput l) := rfl

end SE
