import SE.Spec.Pipe
import SE.Spec.Registry
import SE.Spec.PipeHistory
/-
Vocabulary of property C01 ("StatsD lines aggregate to exactly the predicted Prometheus series").

The core idea is compositional: the state of one series is the fold of ITS OWN applied updates,
independent of everything else that happened in between, and each update is what the StatsD
protocol prescribes for the event (after the rule's scale factor).

* `Touch V`    — what an applied event does: the series it addresses, the metric type it asks for,
                 and the update it applies to the series.
* `touchOf`    — the touch of an event in a given state, read off `evTarget` (SE/Spec/Pipe.lean);
                 defined exactly when `getOrCreate` succeeds, i.e. when the event is applied.
* `runEvs`     — a history of events (each with the tags of its line) through `handleEvent`;
                 no sweep, no clock change, no reload in between.
* `trace` / `touches` — the applied events of a history, in order, with their touches.
* `specSeries` — the predicted state of a series: the fold of its own updates.
* per-kind closed forms: `counterFold`, `gaugeSpec`, `observeFold`, `bumpAll`.

Nothing here changes a model; these are definitions the property statements are phrased in.
-/
namespace SE
open NumOps
variable {V : Type} [NumOps V]

/-- what an applied event does: it addresses the series `(name, labels)` of a metric of type `ty`
    and applies `upd` (given the series' vector) to it -/
structure Touch (V : Type) where
  name : Bytes
  labels : Labels
  ty : MType
  upd : VecM V → Series V → Series V

/-- the touch of an event in state `p`: defined iff the event reaches the registry (`evTarget`) and
    `getOrCreate` succeeds (no panic, no conflict, no reserved label) — i.e. iff the event is applied -/
def touchOf (p : Pipe V) (rx : Rx) (ev : Ev V) (tags : Labels) : Option (Touch V) :=
  match evTarget p rx ev tags with
  | none => none
  | some (_, pl) =>
    match p.reg.getOrCreate pl.1 pl.2.1 p.now with
    | .ok (.ok _) => some { name := pl.2.1.name, labels := pl.2.1.labels, ty := pl.1, upd := pl.2.2 }
    | _ => none

/-- does the touch address the series `(name, labels)`? -/
def Touch.addresses (t : Touch V) (name : Bytes) (labels : Labels) : Bool :=
  t.name == name && t.labels == labels

/-- a history: events, each with the tags of the line it came from, through `handleEvent` one after the
    other. Stops at the first panic; `none` = outside the modelled fragment. -/
def runEvs (rx : Rx) : Pipe V → List (Ev V × Labels) → Option (Except Panic (Pipe V))
  | p, [] => some (.ok p)
  | p, (ev, tags) :: rest =>
    match handleEvent p rx ev tags with
    | some (.ok p') => runEvs rx p' rest
    | other => other

/-- the applied events of a history, in arrival order, each with its touch (in the state it met) -/
def trace (rx : Rx) : Pipe V → List (Ev V × Labels) → List (Ev V × Touch V)
  | _, [] => []
  | p, (ev, tags) :: rest =>
    match handleEvent p rx ev tags with
    | some (.ok p') =>
      match touchOf p rx ev tags with
      | some t => (ev, t) :: trace rx p' rest
      | none => trace rx p' rest
    | _ => []

/-- the touches of a history, in arrival order -/
def touches (rx : Rx) (p : Pipe V) (evs : List (Ev V × Labels)) : List (Touch V) :=
  (trace rx p evs).map (·.2)

/-- the updates of exactly those touches that address `(name, labels)`, in order -/
def ownUpds (name : Bytes) (labels : Labels) (ts : List (Touch V)) : List (VecM V → Series V → Series V) :=
  (ts.filter (·.addresses name labels)).map (·.upd)

/-- the applied events of a history that address `(name, labels)`, in order -/
def ownEvents (name : Bytes) (labels : Labels) (tr : List (Ev V × Touch V)) : List (Ev V) :=
  (tr.filter (·.2.addresses name labels)).map (·.1)

/-- **the predicted state of a series**: the fold of its own updates, starting from `fresh`,
    each update given the series' vector `vec` -/
def specSeries (fresh : Series V) (vec : VecM V) (us : List (VecM V → Series V → Series V)) : Series V :=
  us.foldl (fun s u => u vec s) fresh

/-- the value part of a series as `GetMetricWith` creates it for a metric of type `ty` in vector `vec`:
    zero value, zero count, one zero bucket count per effective bound plus `+Inf` for a histogram.
    (`last`/`ttl` are C07's business; they are set to 0 here and ignored by `Series.sameValue`.) -/
def zeroSeries (ty : MType) (vec : VecM V) (labels : Labels) : Series V :=
  { labels := labels, ttl := 0, last := 0, f := zero, n := 0,
    bk := List.replicate (if ty == .histogram then (effBounds vec.bounds).length + 1 else 0) 0 }

/-- an update whose value part depends only on the value part of the series -/
def UpdValue (f : VecM V → Series V → Series V) : Prop :=
  ∀ v s t, s.sameValue t → (f v s).sameValue (f v t)

/-! ### what the protocol prescribes for one event -/

/-- the metric type an event asks for: from its kind and, for observers, the rule's / default observer type -/
def evType (p : Pipe V) (rx : Rx) (ev : Ev V) : MType :=
  match ev.kind with
  | .counter => .counter
  | .gauge => .gauge
  | .observer => if evObsTy p rx ev == .histogram then .histogram else .summary

/-- the update an event applies, in terms of its scaled value `evValue` (= `ev.value`, times the rule's
    `scale` if the matched rule has one):
    counter ↦ `counter.Add(value)`; gauge ↦ `Add(value)` if the sample was signed, else `Set(value)`;
    observer ↦ `Observe(value)` -/
def evUpd (p : Pipe V) (rx : Rx) (ev : Ev V) : VecM V → Series V → Series V :=
  match ev.kind with
  | .counter => fun _ s => counterAdd s (evValue p rx ev)
  | .gauge => fun _ s => if ev.relative then { s with f := add s.f (evValue p rx ev) } else { s with f := evValue p rx ev }
  | .observer => fun v s => observe v (evObsTy p rx ev == .histogram) s (evValue p rx ev)

/-- the histogram bounds an event asks for: the rule's buckets if it has histogram options with
    buckets, else the defaults -/
def evBounds (p : Pipe V) (rx : Rx) (ev : Ev V) : List V :=
  match evRule p rx ev with
  | some r => if r.hasHistOpts && !r.buckets.isEmpty then r.buckets else p.mapper.cfg.dBuckets
  | none => p.mapper.cfg.dBuckets

/-- the metric name an event asks for (before escaping): the mapped name, or the event's own name when
    no rule matched -/
def evRawName (p : Pipe V) (rx : Rx) (ev : Ev V) : Bytes :=
  match evFound p rx ev, evRule p rx ev with
  | some m, some _ => m.name.getD []
  | _, _ => ev.name

/-! ### closed forms per kind -/

/-- a counter: `counter.Add` folded over the increments in arrival order -/
def counterFold (s0 : Series V) (vs : List V) : Series V := vs.foldl counterAdd s0

/-- does the increment take client_golang's integer path (`float64(uint64(v)) == v`)? -/
def intPath (v : V) : Bool := (toUInt64Exact v).isSome

/-- a gauge: a relative sample (`+x` / `-x`) is added, an absolute one replaces the value -/
def gaugeStep (acc : V) (op : Bool × V) : V := if op.1 then add acc op.2 else op.2

def gaugeSpec (ops : List (Bool × V)) (v0 : V) : V := ops.foldl gaugeStep v0

/-- an observer: `Observe` folded over the observations in arrival order -/
def observeFold (vec : VecM V) (isHist : Bool) (s0 : Series V) (xs : List V) : Series V :=
  xs.foldl (observe vec isHist) s0

/-- bucket counts after incrementing the buckets with the given indices -/
def bumpAll (bk : List Nat) (idxs : List Nat) : List Nat := idxs.foldl bumpAt bk

/-- left sum in arrival order, exactly as the code accumulates -/
def sumFrom (v0 : V) (xs : List V) : V := xs.foldl add v0

end SE
