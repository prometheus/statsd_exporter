import SE.Model.Exporter
/-
The stages of `handleEvent` (SE/Model/Exporter.lean) as definitions of their own: rule lookup (`evFound`, `evRule`),
name/label resolution (`evNamed`), the registry request (`evPlan`: metric type, `GetArgs`, update function; `evTarget`:
the request of an event that reaches the registry) and the registry step (`finishPlan`). The property statements speak
of an event through these; SE/Proofs/RegistryPipe.lean proves `handleEvent` equal to their composition
(`handleEvent_eq`).
-/
namespace SE
variable {V : Type} [NumOps V]

/-- the mapper's answer for the event -/
def evFound (p : Pipe V) (rx : Rx) (ev : Ev V) : Option Mapped :=
  p.mapper.lookup rx ev.name (kindIdx ev.kind)

/-- the matched rule, if any -/
def evRule (p : Pipe V) (rx : Rx) (ev : Ev V) : Option (Rule V) :=
  (evFound p rx ev).bind fun m => p.mapper.cfg.rules[m.ruleIdx]?

/-- the ttl the event's series gets: the rule's (already defaulted by the loader) or the global default -/
def evTtl (p : Pipe V) (rx : Rx) (ev : Ev V) : Int :=
  match evRule p rx ev with
  | some r => r.ttl
  | none => p.mapper.cfg.dTtl

def evHelp (p : Pipe V) (rx : Rx) (ev : Ev V) : Bytes :=
  match evRule p rx ev with
  | some r => if r.help.isEmpty then defaultHelp else r.help
  | none => defaultHelp

/-- the rule's labels after template expansion -/
def mappedLabels (m : Mapped) : List (Bytes × Bytes) := m.labels.map fun (k, v) => (k, v.getD [])

/-- metric name, unsorted label map and counters after the mapping stage -/
def evNamed (p : Pipe V) (rx : Rx) (ev : Ev V) (tags : Labels) : Option (Except EvErr (Bytes × Labels × Counts)) :=
  match evFound p rx ev, evRule p rx ev with
  | some m, some r =>
    match m.name with
    | none => none
    | some nm =>
      if nm.isEmpty then some (.error .emptyMetricName) else
      if m.labels.any (·.2.isNone) then none else
      some (.ok (specEscape nm, mergeLabels tags (mappedLabels m) r.honorLabels, { p.counts with mapped := p.counts.mapped + 1 }))
  | _, _ =>
    if ev.name.isEmpty then some (.error .emptyMetricName)
    else some (.ok (specEscape ev.name, tags, { p.counts with unmapped := p.counts.unmapped + 1 }))

/-- the (scaled) sample value -/
def evValue (p : Pipe V) (rx : Rx) (ev : Ev V) : V :=
  match (evRule p rx ev).bind (·.scale) with
  | some s => NumOps.mul ev.value s
  | none => ev.value

def evObsTy (p : Pipe V) (rx : Rx) (ev : Ev V) : ObsTy :=
  match evRule p rx ev with
  | some r => if r.observerType == .dflt then p.mapper.cfg.dObserverType else r.observerType
  | none => p.mapper.cfg.dObserverType

/-- the registry request of an event: metric type, `GetArgs`, and the update applied to the series -/
def evPlan (p : Pipe V) (rx : Rx) (ev : Ev V) (metricName : Bytes) (sorted : Labels) :
    MType × GetArgs V × (VecM V → Series V → Series V) :=
  let cfg := p.mapper.cfg
  let rule := evRule p rx ev
  let value := evValue p rx ev
  let base : GetArgs V := { name := metricName, labels := sorted, help := evHelp p rx ev, ttl := evTtl p rx ev }
  match ev.kind with
  | .counter => (.counter, base, fun _ s => counterAdd s value)
  | .gauge => (.gauge, base, fun _ s => if ev.relative then { s with f := NumOps.add s.f value } else { s with f := value })
  | .observer =>
    if evObsTy p rx ev == .histogram then
      let bounds := match rule with
        | some r => if r.hasHistOpts && !r.buckets.isEmpty then r.buckets else cfg.dBuckets
        | none => cfg.dBuckets
      (.histogram, { base with bounds := bounds }, fun v s => observe v true s value)
    else
      let mb : Int × Nat := match rule with
        | some r => if r.hasSummaryOpts then (r.maxAge, r.ageBuckets) else (cfg.dMaxAge, cfg.dAgeBuckets)
        | none => (cfg.dMaxAge, cfg.dAgeBuckets)
      let quant := match rule with
        | some r => if r.hasSummaryOpts && !r.quantiles.isEmpty then r.quantiles else cfg.dQuantiles
        | none => cfg.dQuantiles
      (.summary, { base with maxAge := mb.1, ageBuckets := mb.2, objectives := quant.map (·.1) }, fun v s => observe v false s value)

/-- a counter sample that `handleEvent` refuses: negative or NaN after scaling -/
def evBadCounter (p : Pipe V) (rx : Rx) (ev : Ev V) : Bool :=
  ev.kind == .counter && (NumOps.ltZero (evValue p rx ev) || NumOps.isNaN (evValue p rx ev))

def evDropped (p : Pipe V) (rx : Rx) (ev : Ev V) : Bool :=
  ((evRule p rx ev).map (·.action)) == some Action.drop

abbrev Plan (V : Type) := MType × GetArgs V × (VecM V → Series V → Series V)

/-- the state after an applied event -/
def appliedPipe (p : Pipe V) (c : Counts) (pl : Plan V) (reg : Reg V) : Pipe V :=
  { p with reg := updateSeries reg pl.2.1.name pl.2.1.labels pl.2.2, counts := { c with applied := c.applied + 1 } }

/-- the state after a rejected (conflicting / reserved-label) event -/
def rejectedPipe (p : Pipe V) (c : Counts) : Pipe V :=
  { p with counts := { c with conflicts := c.conflicts + 1 } }

/-- the registry step of `handleEvent` -/
def finishPlan (p : Pipe V) (c : Counts) (pl : Plan V) : Option (Except Panic (Pipe V)) :=
  match p.reg.getOrCreate pl.1 pl.2.1 p.now with
  | .error pn => some (.error pn)
  | .ok (.error _) => some (.ok (rejectedPipe p c))
  | .ok (.ok reg) => some (.ok (appliedPipe p c pl reg))

/-- the counters after the mapping stage and the registry request, when the event reaches the registry
    (it is not dropped by a `drop` rule, has a name, and is not a negative/NaN counter sample) -/
def evTarget (p : Pipe V) (rx : Rx) (ev : Ev V) (tags : Labels) : Option (Counts × Plan V) :=
  if evDropped p rx ev then none else
  match evNamed p rx ev tags with
  | some (.ok (nm, labels, c)) => if evBadCounter p rx ev then none else some (c, evPlan p rx ev nm labels.sorted)
  | _ => none

/-- the unsorted label map of the event: rule labels merged into the line's tags, or the tags alone -/
def evLabels (p : Pipe V) (rx : Rx) (ev : Ev V) (tags : Labels) : Labels :=
  match evFound p rx ev, evRule p rx ev with
  | some m, some r => mergeLabels tags (mappedLabels m) r.honorLabels
  | _, _ => tags

end SE
