import SE.Gen.Facts
import SE.Model.Registry
import SE.Model.Listener
/-
Facts about the DEPENDENCIES the hand-written models encode, regenerated on every run from the sources the
build actually uses (client_golang in the module cache at the version go.mod requires; bufio in GOROOT).
A dependency bump that changes one of them breaks the obligation instead of silently invalidating the model.
-/
namespace SE.Gen.Tie
open SE

/-- the client_golang version the Registry model was written against -/
theorem clientGolangVersion : Gen.clientGolangVersion = "v1.22.0" := rfl

/-- `prometheus.DefBuckets` (the loader's default histogram buckets; `SE.Driver.defBuckets`) -/
theorem defBuckets : Gen.defBuckets = [".005", ".01", ".025", ".05", ".1", ".25", ".5", "1", "2.5", "5", "10"] := rfl

/-- summary defaults: 10 minutes / 5 age buckets (the stream duration of `SE.Reg.getOrCreate`, `summaryOptsOk`) -/
theorem summaryDefaults : Gen.defMaxAge = "10*time.Minute" ∧ Gen.defAgeBuckets = "5" := ⟨rfl, rfl⟩

/-- `histogram.findBucket` searches linearly below 35 bounds (`SE.bucketIndex`) -/
theorem findBucketThreshold : Gen.findBucketLinearBelow = "35" := rfl

/-- bufio's default buffer size, which bounds a TCP line (`SE.bufSize`) -/
theorem bufioBufSize : Gen.bufioDefaultBufSize = toString SE.bufSize := rfl

end SE.Gen.Tie
