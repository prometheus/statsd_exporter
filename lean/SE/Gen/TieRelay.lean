import SE.Gen.Facts
import SE.Model.Relay
namespace SE.Gen.Tie
open SE

/-- the relay's buffer channel has 100 slots -/
theorem relayChanCap : Gen.relayChanCap = toString SE.relayChanCap := rfl

end SE.Gen.Tie
