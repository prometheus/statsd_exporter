import SE.Gen.Facts
import SE.Model.Line
import SE.Model.Exporter
/-
Ties between facts regenerated from the source text (SE.Gen, written by /verif/extract on every run)
and what the hand-written models assume. Each theorem is closed by `decide`/`rfl`: if the source
changes the fact, the proof obligation breaks.
-/
namespace SE.Gen.Tie
open SE

/-- `buildEvent`'s switch: exactly the stat types the model's `statTypeOf`/`buildEvent` know -/
theorem statTypes : Gen.statTypeCases = [["c"], ["g"], ["ms"], ["h", "d"], ["s"], ["<default>"]] := rfl

theorem statTypes_model :
    [statTypeOf (strBytes "c"), statTypeOf (strBytes "g"), statTypeOf (strBytes "ms"), statTypeOf (strBytes "h"),
     statTypeOf (strBytes "d"), statTypeOf (strBytes "s"), statTypeOf (strBytes "x")]
      = [.c, .g, .ms, .h, .d, .s, .bad] := by decide +kernel

/-- the extended-aggregation switch accepts exactly ms, h, d (`isExtAggType`) -/
theorem extAggTypes : Gen.extAggTypeCases = [["ms", "h", "d"]] := rfl

-- (the `reason` label strings of the error counters are regenerated into SE.Gen as well, but no property depends on
-- their spelling, so no obligation is attached to them)

end SE.Gen.Tie
