import SE.Gen.Facts
import SE.Model.Mapper
/-
Regenerated literals of pkg/mapper and pkg/mapper/fsm: the three validation regexes that the hand recognisers
`matchLineOk`, `metricNameOk`, `labelNameOk` stand for, the reference syntax that `substRefs` scans, and two defaults
of the loader.
-/
namespace SE.Gen.Tie
open SE

theorem metricLineRE : Gen.metricLineRE = "^(\\*|[a-zA-Z_]([a-zA-Z0-9_\\-])*)(\\.\\*|\\.[a-zA-Z0-9_]([a-zA-Z0-9_\\-])*)*$" := rfl
theorem metricNameRE : Gen.metricNameRE = "^([a-zA-Z_]|(\\$\\{?\\d+\\}?))([a-zA-Z0-9_]|(\\$\\{?\\d+\\}?))*$" := rfl
theorem labelNameRE : Gen.labelNameRE = "^[a-zA-Z_][a-zA-Z0-9_]+$" := rfl
/-- the formatter's reference syntax is `regexp.Expand`'s (`substRefs` scans with `rxExtractU`, the model of `regexp`'s own
    `extract`): `$$`, `${name}`, `$name` with name = letters, digits, underscore -/
theorem templateReplaceCaptureRE :
    Gen.templateReplaceCaptureRE = "\\$\\$|\\$\\{([\\p{L}\\p{Nd}_]+)\\}|\\$([\\p{L}\\p{Nd}_]+)" := rfl
theorem defaultQuantiles : Gen.defaultQuantiles = [("0.5", "0.05"), ("0.9", "0.01"), ("0.99", "0.001")] := rfl
/-- the loader's lower limit for a summary's stream duration (`max_age / age_buckets`, repair 2eac18a) is the model's
    `minStreamDuration`: one millisecond, in nanoseconds -/
theorem minSummaryStreamDuration : Gen.minSummaryStreamDuration = "time.Millisecond" ∧ minStreamDuration = 1000000 := ⟨rfl, rfl⟩

end SE.Gen.Tie
