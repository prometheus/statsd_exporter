import SE.Gen.Facts
/-
The atomicity assumptions of the interleaving theorems, as facts regenerated from the source:
C14 (`racing_lookup_old_or_new`) treats `GetMapping` and the configuration swap of
`InitFromYAMLString` as atomic steps; C16 treats `Queue`/`Flush` as holding the queue's mutex for the whole
call, also across the channel send; C18 treats the listeners as keeping no state between packets. The facts are about
the lock set of every access row of a method (`rowsOf`), not about where a locked region begins and ends.
-/
namespace SE.Gen.Tie
open SE.Gen

def rowsOf (ty method : String) : List Access := Gen.accessTable.filter fun a => a.ty == ty && a.method == method

/-- what `InitFromYAMLString` assigns when it installs a new configuration (mapper.go, the block after `m.mutex.Lock()`):
    the five fields, the cache field and the call that resets it. Rows of other locations (the logger, the mappings
    counter) carry no obligation. -/
def swapLocs : List String :=
  ["MetricMapper.Defaults", "MetricMapper.Mappings", "MetricMapper.FSM", "MetricMapper.doFSM", "MetricMapper.doRegex",
   "MetricMapper.cache", "MetricMapper.cache.Reset()"]

/-- what `GetMapping` reads and calls under the read lock -/
def lookupLocs : List String :=
  ["MetricMapper.Mappings", "MetricMapper.FSM.GetMapping()", "MetricMapper.doFSM", "MetricMapper.doRegex",
   "MetricMapper.cache", "MetricMapper.cache.Get()", "MetricMapper.cache.Add()"]

/-- every part of the swap (the five fields and the cache reset) is touched by `InitFromYAMLString`, and only
    while it holds the mapper's mutex exclusively -/
theorem reload_swap_is_one_write_locked_region :
    (swapLocs.all fun l => (rowsOf "MetricMapper" "InitFromYAMLString").any fun a => a.loc == l) = true ∧
    ((rowsOf "MetricMapper" "InitFromYAMLString").all fun a => !swapLocs.contains a.loc || a.locks == [("mutex", true)]) = true := by
  decide +kernel

/-- `GetMapping` reads configuration and cache only under the mapper's read lock -/
theorem lookup_is_one_read_locked_region :
    (lookupLocs.all fun l => (rowsOf "MetricMapper" "GetMapping").any fun a => a.loc == l) = true ∧
    ((rowsOf "MetricMapper" "GetMapping").all fun a => !lookupLocs.contains a.loc || a.locks == [("mutex", false)]) = true := by
  decide +kernel

/-- `Queue` and `Flush` hold the queue's mutex for every access to `q`, and for the channel send -/
theorem queue_mutex_held_across_send :
    ((rowsOf "EventQueue" "Queue" ++ rowsOf "EventQueue" "Flush").all fun a =>
      !(a.loc == "EventQueue.q" || a.loc == "EventQueue.C") || a.locks == [("m", true)]) = true ∧
    ((rowsOf "EventQueue" "Queue").any fun a => a.loc == "EventQueue.C") = true := by
  decide +kernel

/-- the listener objects carry no mutable state of their own: no method of the three listener types other than the
    set-up-time `SetEventHandler` assigns to a field of its receiver, so packets and TCP connections handled by the same listener share nothing through it
    (C18: a datagram is unaffected by later ones, an over-long line affects only its own connection) — what they share
    are the counters, the event queue and the relay, each synchronised internally -/
theorem listeners_keep_no_state :
    (Gen.accessTable.filter fun a =>
      (a.ty == "StatsDUDPListener" || a.ty == "StatsDTCPListener" || a.ty == "StatsDUnixgramListener") && a.write && a.method != "SetEventHandler") = [] ∧
    -- (non-vacuity: the three types are in the table, with reads)
    (["StatsDUDPListener", "StatsDTCPListener", "StatsDUnixgramListener"].all fun t =>
      Gen.accessTable.any fun a => a.ty == t && !a.write) = true := by
  decide +kernel

end SE.Gen.Tie
