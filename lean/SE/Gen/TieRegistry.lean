import SE.Gen.Facts
import SE.Model.Registry
import SE.Model.Exporter
namespace SE.Gen.Tie
open SE

/-- `checkHistogramNameCollision`'s suffix list is the model's -/
theorem histogramSuffixes : Gen.histogramSuffixes.map strBytes = [sfxBucket, sfxCount, sfxSum] := rfl

/-- the exporter sweeps stale series once per second, the relay flushes once per second (the event queue's ticker takes
    its period as a parameter and is left out: no theorem depends on it) -/
theorem tickerPeriods : Gen.tickerPeriods.filter (·.1 != "event") = [("exporter", "time.Second"), ("relay", "1*time.Second")] := rfl

/-- the help text of unmapped / help-less metrics -/
theorem defaultHelp : strBytes Gen.defaultHelp = SE.defaultHelp := rfl

end SE.Gen.Tie
