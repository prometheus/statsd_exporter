import SE.Util
/-
Go's UTF-8 decoding as used by `for i, c := range s` and `utf8.DecodeRuneInString`:
an ill-formed sequence yields (U+FFFD, width 1). Only the *width* and, for ASCII,
the byte matter to the code that is modelled, so a token carries its bytes and whether
it was well-formed.
-/
namespace SE

def isCont (b : UInt8) : Bool := 0x80 ≤ b && b ≤ 0xBF

def ok3 (b0 b1 b2 : UInt8) : Bool :=
  (if b0 == 0xE0 then 0xA0 else 0x80) ≤ b1 && b1 ≤ (if b0 == 0xED then 0x9F else 0xBF) && isCont b2

def ok4 (b0 b1 b2 b3 : UInt8) : Bool :=
  (if b0 == 0xF0 then 0x90 else 0x80) ≤ b1 && b1 ≤ (if b0 == 0xF4 then 0x8F else 0xBF) && isCont b2 && isCont b3

/-- width of the rune Go decodes at the head of a non-empty byte string, and whether it is well-formed -/
def runeWidth : Bytes → Nat × Bool
  | [] => (0, false)
  | b0 :: rest =>
    if b0 < 0x80 then (1, true)
    else if 0xC2 ≤ b0 && b0 ≤ 0xDF then
      match rest with
      | b1 :: _ => if isCont b1 then (2, true) else (1, false)
      | _ => (1, false)
    else if 0xE0 ≤ b0 && b0 ≤ 0xEF then
      match rest with
      | b1 :: b2 :: _ => if ok3 b0 b1 b2 then (3, true) else (1, false)
      | _ => (1, false)
    else if 0xF0 ≤ b0 && b0 ≤ 0xF4 then
      match rest with
      | b1 :: b2 :: b3 :: _ => if ok4 b0 b1 b2 b3 then (4, true) else (1, false)
      | _ => (1, false)
    else (1, false)

structure Tok where
  bytes : Bytes
  valid : Bool
  deriving Repr, DecidableEq

def tokensFuel : Nat → Bytes → List Tok
  | 0, _ => []
  | _, [] => []
  | fuel + 1, b :: bs =>
    let w := (runeWidth (b :: bs)).1
    ⟨(b :: bs).take w, (runeWidth (b :: bs)).2⟩ :: tokensFuel fuel ((b :: bs).drop w)

/-- the sequence of runes Go's `range` yields over a string -/
def tokens (bs : Bytes) : List Tok := tokensFuel bs.length bs

def flat (ts : List Tok) : Bytes := ts.flatMap (·.bytes)

/-- `utf8.ValidString` -/
def validUtf8 (bs : Bytes) : Bool := (tokens bs).all (·.valid)

end SE
